import OpnVerif.Gen.Enums
import OpnVerif.Gen.Pitch
import OpnVerif.Gen.Tables
import OpnVerif.Gen.Wopn
import OpnVerif.Lemmas.Int
import OpnVerif.Lemmas.List
import OpnVerif.Lemmas.Seq
import OpnVerif.Lemmas.Tables
import OpnVerif.Lemmas.Users
import OpnVerif.Lemmas.Wopn
import OpnVerif.Model.Audio
import OpnVerif.Model.BankApi
import OpnVerif.Model.BankMap
import OpnVerif.Model.Basic
import OpnVerif.Model.ChipFront
import OpnVerif.Model.Mus
import OpnVerif.Model.Pitch
import OpnVerif.Model.Resampler
import OpnVerif.Model.Seq
import OpnVerif.Model.Settings
import OpnVerif.Model.Synth
import OpnVerif.Model.Volume
import OpnVerif.Model.Wopn
import OpnVerif.Model.Xmi
import OpnVerif.Props.C01
import OpnVerif.Props.C02
import OpnVerif.Props.C03
import OpnVerif.Props.C04
import OpnVerif.Props.C05
import OpnVerif.Props.C06
import OpnVerif.Props.C07
import OpnVerif.Props.C08
import OpnVerif.Props.C09
import OpnVerif.Props.C10
import OpnVerif.Props.C11
import OpnVerif.Props.C12
import OpnVerif.Props.C13
import OpnVerif.Props.C14
import OpnVerif.Props.C15
import OpnVerif.Props.C16
import OpnVerif.Props.C17
import OpnVerif.Props.C18
import OpnVerif.Props.C19
import OpnVerif.Props.C20
import OpnVerif.Spec.Inv
import OpnVerif.Spec.Resolve
