/-
  C01 — Untrusted music data never crashes, corrupts memory or hangs the player (the part the sequencer model carries).
  The loaders' model reads byte lists; every read past the end is an explicit branch (no `Fault` can arise from indexing).
  Proved here: no parser step moves the cursor backwards, a delta time consumes at least one byte, and therefore the
  track loop finishes within (track length + 1) iterations for every byte string — the fuel the model passes is never
  the reason for a result, and loading takes a number of parser steps linear in the input.
-/
import OpnVerif.Lemmas.Seq
import OpnVerif.Props.C07

namespace Opn.C01
open Opn Opn.Seq

/-- readVarLenEx consumes at least one byte when it succeeds -/
theorem readVarLen_progress : ∀ (bs : Bytes) (acc v : Nat) (r : Bytes), readVarLen bs acc = (some v, r) → r.length < bs.length
  | bs, acc, v, r => by
    fun_induction readVarLen bs acc
    case case1 => exact nofun
    case case2 ih => exact fun h => Nat.lt_succ_of_lt (ih h)
    case case3 => exact fun h => (Prod.mk.inj h).2 ▸ Nat.lt_succ_self _

theorem readVarLen_le_of_eq {bs r : Bytes} {acc : Nat} {v : Option Nat} (h : readVarLen bs acc = (v, r)) : r.length ≤ bs.length := by
  have := C07.readVarLen_le bs acc
  rwa [h] at this

theorem parseSysEx_le (byte : Nat) (rest : Bytes) (status : Int) (ps : ParseSt) :
    (parseSysEx byte rest status ps).2.1.length ≤ rest.length := by
  fun_cases parseSysEx byte rest status ps
  all_goals
    have := readVarLen_le_of_eq ‹_›
    simp only [List.length_drop]
    omega

theorem parseMeta_le (rest : Bytes) (status : Int) (ps : ParseSt) :
    (parseMeta rest status ps).2.1.length ≤ rest.length := by
  fun_cases parseMeta rest status ps
  case case1 => exact Nat.le_refl _
  all_goals
    have := readVarLen_le_of_eq ‹_›
    simp only [List.length_drop, List.length_cons]
    omega

/-- every branch returns `rest` itself or what is left of it behind the one or two data bytes it has matched -/
theorem parseChannel_le (byte : Nat) (rest : Bytes) (status : Int) (ps : ParseSt) :
    (parseChannel byte rest status ps).2.1.length ≤ rest.length := by
  fun_cases parseChannel byte rest status ps
  all_goals simp only [List.length_cons, Nat.add_assoc, Nat.le_add_right, Nat.le_refl]

/-- **no parser step moves the cursor backwards** (every event is read inside the remaining track bytes) -/
theorem parseEvent_le (bs : Bytes) (status : Int) (ps : ParseSt) : (parseEvent bs status ps).2.1.length ≤ bs.length := by
  fun_cases parseEvent bs status ps
  case case1 => exact Nat.le_refl _
  case case2 => exact Nat.le_succ_of_le (parseSysEx_le ..)
  case case3 => exact Nat.le_succ_of_le (parseMeta_le ..)
  case case4 => exact parseChannel_le ..
  case case5 => exact Nat.le_succ_of_le (parseChannel_le ..)

/-- one round of the track loop that goes on (`evSub` is not End-of-Track) has read a delta time behind its event, that is
    at least one byte -/
theorem round_progress {bs bs1 bs2 : Bytes} {status status1 : Int} {ps ps1 : ParseSt} {ev : Ev} {cur cur' : Row} {evSub : Nat}
    (hpe : parseEvent bs status ps = (ev, bs1, status1, ps1))
    (hd : (if ev.subtype != stEndTrack then
            match readVarLen bs1 0 with
            | (some d, r) => ({ cur with delay := d }, r, ev.subtype)
            | (none, r) => ({ cur with delay := 2 }, r, stEndTrack)
          else (cur, bs1, ev.subtype)) = (cur', bs2, evSub))
    (hne : ¬ (evSub == stEndTrack) = true) : bs2.length < bs.length := by
  have hle := parseEvent_le bs status ps
  rw [hpe] at hle
  split at hd
  · split at hd
    · next d r hrv =>
      cases hd
      exact Nat.lt_of_lt_of_le (readVarLen_progress bs1 0 d _ hrv) hle
    · cases hd
      exact absurd rfl hne
  · next hend =>
    cases hd
    rw [bne, Bool.not_eq_true, Bool.not_eq_false'] at hend
    exact absurd hend hne

/-- **the track loop terminates on every byte string**: with more fuel than remaining bytes it never stops for lack of fuel
    (each round that continues has read a delta time, i.e. at least one byte) -/
theorem trackLoop_fuel : ∀ (fuel : Nat) (bs : Bytes) (status : Int) (b : BuildSt) (absPos : Nat) (cur : Row) (states : List Nat) (rows : List Row),
    bs.length < fuel → trackLoop fuel bs status b absPos cur states rows ≠ .error "fuel"
  | fuel, bs, status, b, absPos, cur, states, rows => by
    fun_induction trackLoop fuel bs status b absPos cur states rows
    case case1 => exact fun h => absurd h (Nat.not_lt_zero _)
    case case2 => simp
    case case3 | case5 => exact fun _ => nofun
    -- left: the two recursive calls; the parse result, the delta-time block and `evSub ≠ End-of-Track` are in the context
    all_goals
      have := round_progress ‹_› ‹_› ‹_›
      exact fun h => ‹_ → _› (by omega)

/-- building a track never fails for lack of fuel: the result is a property of the bytes alone -/
theorem buildTrack_fuel (tk : Nat) (bs : Bytes) (b : BuildSt) : buildTrack tk bs b ≠ .error "fuel" := by
  fun_cases buildTrack tk bs b
  case case1 => simp
  case case2 hrv _ _ he =>
    have := readVarLen_progress _ _ _ _ hrv
    exact fun h => trackLoop_fuel _ _ _ _ _ _ _ _ (by omega) (he.trans (congrArg _ (Except.error.inj h)))
  case case3 => exact nofun

/-! ## the loop stack level never sinks below -1 ("no loop open")

`handleEvent` indexes the loop stack with `stackLevel + 1` (as a `size_t` in the C++): that is only meaningful while the level is at least -1.
(A level of -2 made the implementation push stack entries until memory ran out — fixed, see corpus/C01.) -/

theorem stackDown_ge (lvl : Int) : -1 ≤ stackDown lvl := by
  unfold stackDown; split <;> omega

theorem curIdx_level (l : Loop) : l.curIdx.1.stackLevel = l.stackLevel :=
  Loop.curIdx_level rfl

theorem stackBreakN_level_ge : ∀ (n : Nat) (l : Loop), -1 ≤ l.stackLevel → -1 ≤ (stackBreakN n l).stackLevel
  | n, l => by
    fun_induction stackBreakN n l
    case case1 => exact id
    case case2 ih => exact fun _ => ih (stackDown_ge _)

theorem stackUpN_level_ge : ∀ (n : Nat) (l : Loop) (p : Position), -1 ≤ l.stackLevel → -1 ≤ (stackUpN n l p).stackLevel
  | n, l, p => by
    fun_induction stackUpN n l p
    case case1 => exact id
    case case2 l _ _ l' _ hci ih =>
      have h1 : l'.stackLevel = l.stackLevel + 1 := Loop.curIdx_level hci
      exact fun h => ih (show -1 ≤ l'.stackLevel by omega)

theorem stackEndsN_level_ge : ∀ (n : Nat) (s : Seq) (t : Rat) (outs : List Out), -1 ≤ s.loop.stackLevel →
    -1 ≤ (stackEndsN n s t outs).1.loop.stackLevel
  | 0, s, _, _, h => h
  | n + 1, s, t, outs, h => by
      rcases stackEndsN_succ n s t outs with ⟨s', _, hl, he⟩ | ⟨s', hl, he⟩
      · rw [he, hl]; exact h
      · rw [he]; exact stackEndsN_level_ge n s' t outs (hl ▸ stackDown_ge _)
end Opn.C01
