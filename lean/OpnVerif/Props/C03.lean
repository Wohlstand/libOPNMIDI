/-
  C03 — Any sequence of API calls on a live instance is memory-safe and terminates (the decision logic that is
  stated outright: argument validation for every value of the parameter types, channel normalisation).
  The period cap of the audio loop is C13's; the voice-allocation invariants the real-time calls rely on are C04's; the
  loaders' bounds are C01/C02's.
-/
import OpnVerif.Model.Settings
import OpnVerif.Model.Synth
import OpnVerif.Props.C18

namespace Opn.C03
open Opn

/-- opn2_setNumChips: for every `int` the result is 0 exactly for 1..100, otherwise -1 and nothing changes -/
theorem setNumChips_total (s : Settings.S) (n : Int) :
    (Settings.step s (.numChips n)).2 = some (if 1 ≤ n ∧ n ≤ 100 then 0 else -1) ∧
    (¬ (1 ≤ n ∧ n ≤ 100) → (Settings.step s (.numChips n)).1 = s) := by
  rw [C18.step_numChips]
  exact ⟨rfl, fun h => if_neg h⟩

/-- opn2_switchEmulator: for every `int` (also negative values and values ≥ 32, where a shift of the availability mask
    would be undefined) the result is -1 outside the compiled range and nothing changes -/
theorem switchEmulator_total (s : Settings.S) (e : Int) :
    (Settings.step s (.emulator e)).2 = some (if 0 ≤ e ∧ e < Settings.emuCount then 0 else -1) ∧
    (¬ (0 ≤ e ∧ e < Settings.emuCount) → (Settings.step s (.emulator e)).1 = s) := by
  rw [C18.step_emulator]
  exact ⟨rfl, fun h => if_neg h⟩

theorem setDeviceIdentifier_total (s : Settings.S) (id : Nat) :
    (Settings.step s (.devId id)).2 = some (if id ≤ 15 then 0 else -1) ∧ (15 < id → (Settings.step s (.devId id)).1 = s) := by
  rw [C18.step_devId]
  exact ⟨rfl, fun h => if_neg (Nat.not_le.2 h)⟩

/-- every real-time entry point maps its 8-bit channel argument to an index inside the MIDI channel table
    (16·k records, k ≥ 1): `channel % 16` whenever the argument is not a valid index -/
theorem normChan_in_range (s : Synth.S) (channel : Nat) (h16 : 16 ≤ s.midi.length) :
    ∃ c, (Synth.normChan channel).run s = .ok (c, s) ∧ c < s.midi.length := by
  refine ⟨if channel ≥ s.midi.length then channel % 16 else channel, rfl, ?_⟩
  split
  · have := Nat.mod_lt channel (show 16 > 0 by decide); omega
  · omega

/-- opn2_rt_patchChange stores a program below 128 for every 8-bit argument -/
theorem patch_masked (p : Nat) : p % 128 < 128 := Nat.mod_lt _ (by decide)


/-! ## the configuration surface as a whole (Model/Settings.lean: every setter, reset, bank and music load) -/

open Opn.Settings in
/-- **every configuration call reports one of the documented results** — nothing (void functions), 0, or -1 — for every state
    and every argument value of the parameter types (the model's `step` is total: no call of this surface can fail to return) -/
theorem config_call_result (s : Settings.S) (op : Settings.Op) :
    (Settings.step s op).2 = none ∨ (Settings.step s op).2 = some 0 ∨ (Settings.step s op).2 = some (-1) := by
  -- each branch of `step` reports a literal; an accepted music file 0 or -1 by whether a bank is there
  fun_cases step s op <;> simp

open Opn.Settings in
/-- a configuration call that reports -1 has changed nothing (a music load re-applies the setup, which C18 shows to be the
    identity on every reachable state: `C18.music_keeps`) -/
theorem config_call_failed_frame (s : Settings.S) (op : Settings.Op) (h : (Settings.step s op).2 = some (-1))
    (hm : op ≠ .musicRejected ∧ op ≠ .musicAccepted) : (Settings.step s op).1 = s := by
  cases op with
  | numChips _ | emulator _ | devId _ | bankRejected => exact C18.rejected_unchanged s _ rfl h
  | musicRejected => exact absurd rfl hm.1
  | musicAccepted => exact absurd rfl hm.2
  -- every other call reports `none` or 0
  | _ => cases h

/-- … and for every sequence of configuration calls, from the fresh instance: the run is defined, every state on the way is
    consistent (C18), so in particular a refused music file changes nothing at any point of any history -/
theorem config_history_safe (ops : List Settings.Op) :
    let s := ops.foldl (fun s op => (Settings.step s op).1) ({} : Settings.S)
    (Settings.step s .musicRejected).1 = s ∧ (Settings.step s .musicAccepted).1 = s :=
  (C18.music_keeps _ (C18.consistent_reachable ops)).symm

end Opn.C03
