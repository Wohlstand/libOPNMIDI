/-
  C18 — Settings are transactional: accepted values stick, rejected change nothing.
  Theorems about Model/Settings.lean (setters, getters, applySetup, bank/music loads).
-/
import OpnVerif.Model.Settings

namespace Opn.C18
open Opn Opn.Settings

/-- the setters that can report failure -/
def canFail : Op → Bool
  | .numChips _ | .emulator _ | .devId _ | .bankRejected => true
  | _ => false

/-- a setter that validates its argument (`if (bad) return -1; …; return 0;`), read with the documented range `ok` as the test -/
theorem checked {ok bad : Prop} [Decidable ok] [Decidable bad] (hb : bad ↔ ¬ ok) (s s' : S) :
    (if bad then (s, some (-1)) else (s', some 0) : S × Option Int) = (if ok then s' else s, some (if ok then 0 else -1)) := by
  by_cases c : ok <;> simp [c, hb]

theorem step_numChips (s : S) (n : Int) : step s (.numChips n) =
    (if 1 ≤ n ∧ n ≤ 100 then { s with setup := { s.setup with numChips := n.toNat }, live := { s.live with numChips := n.toNat } } else s,
     some (if 1 ≤ n ∧ n ≤ 100 then 0 else -1)) :=
  checked (by simp only [Bool.or_eq_true, decide_eq_true_eq]; omega) ..

theorem step_emulator (s : S) (e : Int) : step s (.emulator e) =
    (if 0 ≤ e ∧ e < emuCount then { s with setup := { s.setup with emulator := e } } else s, some (if 0 ≤ e ∧ e < emuCount then 0 else -1)) :=
  checked (by simp only [Bool.or_eq_true, decide_eq_true_eq]; omega) ..

theorem step_devId (s : S) (id : Nat) :
    step s (.devId id) = (if id ≤ 15 then { s with devId := id } else s, some (if id ≤ 15 then 0 else -1)) :=
  checked Nat.not_le.symm ..

theorem rejected {ok : Prop} [Decidable ok] {s s' : S} {r : S × Option Int}
    (e : r = (if ok then s' else s, some (if ok then 0 else -1))) (h : r.2 = some (-1)) : r.1 = s := by
  subst e
  by_cases c : ok
  · simp only [if_pos c] at h
    cases h
  · exact if_neg c

/-- **rejected ⇒ nothing changes**: a setter (or a bank load) that reports failure leaves the whole configuration state as it was -/
theorem rejected_unchanged (s : S) (op : Op) (hf : canFail op = true) (hr : (step s op).2 = some (-1)) : (step s op).1 = s := by
  cases op with
  | numChips n => exact rejected (step_numChips s n) hr
  | emulator e => exact rejected (step_emulator s e) hr
  | devId id => exact rejected (step_devId s id) hr
  | bankRejected => rfl
  | _ => cases hf

/-- failure is reported exactly for the documented argument ranges (every `Int`, also the values the C code would shift by) -/
theorem numChips_result (s : S) (n : Int) : (step s (.numChips n)).2 = some (if 1 ≤ n ∧ n ≤ 100 then 0 else -1) :=
  congrArg Prod.snd (step_numChips s n)

theorem emulator_result (s : S) (e : Int) : (step s (.emulator e)).2 = some (if 0 ≤ e ∧ e < emuCount then 0 else -1) :=
  congrArg Prod.snd (step_emulator s e)

theorem devId_result (s : S) (id : Nat) : (step s (.devId id)).2 = some (if id ≤ 15 then 0 else -1) :=
  congrArg Prod.snd (step_devId s id)

theorem setVolumeScale_spec (cur : Nat) (m : Int) :
    (1 ≤ m → m ≤ 5 → (setVolumeScale cur m : Int) = m - 1) ∧ (m < 1 ∨ 5 < m → setVolumeScale cur m = cur) := by
  fun_cases setVolumeScale cur m <;> simp_all
  omega

/-- the rule by which `applySetup`, the logarithmic-volume switch `log` and the volume-model setter recompute the scale
    (`cur` was in force, the bank asks for `bank`) -/
def appliedScale (log : Nat) (model : Int) (bank cur : Nat) : Nat :=
  if log != 0 then setVolumeScale cur 2 else if model == 0 then bank else setVolumeScale cur model

theorem appliedScale_spec {log : Nat} {model : Int} {bank cur scale : Nat} (h : scale = appliedScale log model bank cur) :
    (log = 0 → model = 0 → scale = bank) ∧
    (log = 0 → 1 ≤ model → model ≤ 5 → (scale : Int) = model - 1) ∧
    (log ≠ 0 → scale = 1) ∧
    (log = 0 → model < 0 ∨ 5 < model → scale = cur) := by
  subst h
  unfold appliedScale
  refine ⟨fun l m0 => ?_, fun l m1 m5 => ?_, fun l => ?_, fun l m => ?_⟩
  · subst l m0
    rfl
  · subst l
    rw [if_neg (by decide), if_neg (by rw [beq_iff_eq]; omega)]
    exact (setVolumeScale_spec cur model).1 m1 m5
  · rw [if_pos (bne_iff_ne.2 l)]
    rfl
  · subst l
    rw [if_neg (by decide), if_neg (by rw [beq_iff_eq]; omega)]
    exact (setVolumeScale_spec cur model).2 (by omega)

theorem applySetup_scale (s : S) :
    (applySetup s).live.volumeScale = appliedScale s.setup.logVolumes s.setup.volumeModel s.bank.volumeModel s.live.volumeScale := by
  unfold applySetup appliedScale bne
  cases s.setup.logVolumes == 0 <;> cases s.setup.volumeModel == 0 <;> rfl

theorem logVol_scale (s : S) (v : Int) : (step s (.logVol v)).1.live.volumeScale =
    appliedScale (v % 4294967296).toNat s.setup.volumeModel s.bank.volumeModel s.live.volumeScale := rfl

theorem volModel_scale (s : S) (v : Int) :
    (step s (.volModel v)).1.live.volumeScale = appliedScale 0 v s.bank.volumeModel s.live.volumeScale := rfl

/-! ## accepted ⇒ the getter reports the value -/

theorem numChips_sticks (s : S) (n : Int) (h : 1 ≤ n ∧ n ≤ 100) :
    (view (step s (.numChips n)).1).numChips = n.toNat ∧ (view (step s (.numChips n)).1).numChipsObtained = n.toNat := by
  rw [step_numChips, if_pos h]
  exact ⟨rfl, rfl⟩

theorem devId_sticks (s : S) (id : Nat) (h : id ≤ 15) : (step s (.devId id)).1.devId = id := by
  rw [step_devId, if_pos h]

theorem lfo_sticks (s : S) (v : Int) :
    (view (step s (.lfo v)).1).lfoEnabled = (if v < 0 then s.bank.lfoEnable else v != 0) := rfl

theorem lfoFreq_sticks (s : S) (v : Int) (h : 0 ≤ v ∧ v < 256) : (view (step s (.lfoFreq v)).1).lfoFrequency = v.toNat := by
  show (if v < 0 then _ else (v % 256).toNat) = _
  rw [if_neg (Int.not_lt.2 h.1), Int.emod_eq_of_lt h.1 h.2]

theorem lfoFreq_auto (s : S) (v : Int) (h : v < 0) : (view (step s (.lfoFreq v)).1).lfoFrequency = s.bank.lfoFrequency :=
  if_pos h

theorem arp_sticks (s : S) (v : Int) : (view (step s (.arp v)).1).autoArpeggio = (v != 0) := rfl

theorem chanAlloc_sticks (s : S) (v : Int) (h : -1 ≤ v ∧ v < 3) : (view (step s (.chanAlloc v)).1).chanAlloc = v :=
  if_neg (by simp; omega)

theorem chanAlloc_invalid_is_auto (s : S) (v : Int) (h : v < -1 ∨ v ≥ 3) : (view (step s (.chanAlloc v)).1).chanAlloc = -1 :=
  if_pos (by simpa using h)

theorem volModel_sticks (s : S) (v : Int) (h : 1 ≤ v ∧ v ≤ 5) : (view (step s (.volModel v)).1).volumeModel = v.toNat := by
  have e := (appliedScale_spec (volModel_scale s v)).2.1 rfl h.1 h.2
  show volumeModelOf _ = _
  unfold volumeModelOf
  rw [if_pos (by omega)]
  omega

theorem chipType_sticks (s : S) (v : Int) (h : 0 ≤ v) : (view (step s (.chipType v)).1).chipType = v :=
  if_neg (Int.not_lt.2 h)

theorem chipType_auto (s : S) (v : Int) (h : v < 0) : (view (step s (.chipType v)).1).chipType = s.bank.chipType :=
  if_pos h

/-! ## the values stay in force across resets, emulator switches and music loads -/

/-- the volume scale in force is a function of the requests: the deprecated logarithmic-volume switch selects the native
    OPN2 scale, otherwise AUTO selects the bank's scale and a model id 1..5 its scale (an id outside 0..5 keeps what was
    in force) -/
def Consistent (s : S) : Prop :=
  s.live.numChips = s.setup.numChips ∧
  s.live.lfoEnable = (if s.setup.lfoEnable < 0 then s.bank.lfoEnable else s.setup.lfoEnable != 0) ∧
  s.live.lfoFrequency = (if s.setup.lfoFrequency < 0 then s.bank.lfoFrequency else (s.setup.lfoFrequency % 256).toNat) ∧
  s.live.chipFamily = (if s.setup.chipType < 0 then (s.bank.chipType : Int) else s.setup.chipType) ∧
  (s.setup.logVolumes = 0 → s.setup.volumeModel = 0 → s.live.volumeScale = s.bank.volumeModel) ∧
  (s.setup.logVolumes = 0 → 1 ≤ s.setup.volumeModel → s.setup.volumeModel ≤ 5 → (s.live.volumeScale : Int) = s.setup.volumeModel - 1) ∧
  (s.setup.logVolumes ≠ 0 → s.live.volumeScale = 1) ∧
  s.live.scaleModulators = (s.setup.scaleModulators != 0)

/-- on a consistent state re-applying the setup changes nothing -/
theorem applySetup_fix (s : S) (h : Consistent s) : applySetup s = s := by
  obtain ⟨h1, h2, h3, h4, h5, h5', h5l, h6⟩ := h
  -- the rule selects again the scale it had selected, case by case as in `appliedScale_spec`
  have hv : (applySetup s).live.volumeScale = s.live.volumeScale := by
    obtain ⟨a, b, c, d⟩ := appliedScale_spec (applySetup_scale s)
    by_cases l : s.setup.logVolumes = 0
    · by_cases m0 : s.setup.volumeModel = 0
      · rw [a l m0, h5 l m0]
      · by_cases m : 1 ≤ s.setup.volumeModel ∧ s.setup.volumeModel ≤ 5
        · exact Int.ofNat.inj ((b l m.1 m.2).trans (h5' l m.1 m.2).symm)
        · exact d l (by omega)
    · rw [c l, h5l l]
  -- and so does every other field that `applySetup` recomputes
  unfold applySetup at hv ⊢
  simp only at hv ⊢
  rw [← h1, ← h2, ← h3, ← h4, ← h6, hv]

theorem reset_keeps (s : S) : (step s .reset).1 = s := rfl

theorem emulator_keeps_view (s : S) (e : Int) : view (step s (.emulator e)).1 = view s := by
  rw [step_emulator]
  split <;> rfl

theorem runAtPcm_keeps_view (s : S) (b : Int) : view (step s (.runAtPcm b)).1 = view s := rfl

theorem music_keeps (s : S) (h : Consistent s) : (step s .musicAccepted).1 = s ∧ (step s .musicRejected).1 = s := by
  have e : (if s.banksLoaded then applySetup s else s) = s := by rw [applySetup_fix s h, ite_self]
  exact ⟨e, e⟩

/-- hooks and the device id are untouched by everything but their own setters -/
theorem hooks_devid_persist (s : S) (op : Op) (h1 : ∀ b o, op ≠ .hook b o) (h2 : ∀ i, op ≠ .devId i) :
    (step s op).1.hooks = s.hooks ∧ (step s op).1.devId = s.devId := by
  -- a branch of `step` is excluded or builds its state without naming the two fields
  fun_cases step s op
  all_goals first | exact ⟨rfl, rfl⟩ | exact absurd rfl (h1 _ _) | exact absurd rfl (h2 _) | (split <;> exact ⟨rfl, rfl⟩)

/-- loop settings and tempo persist across every other call -/
theorem seq_settings_persist (s : S) (op : Op) (h : match op with | .loop _ | .loopCount _ | .loopHooksOnly _ | .tempo _ => False | _ => True) :
    (step s op).1.seq = s.seq := by
  fun_cases step s op
  all_goals first | rfl | exact h.elim | (split <;> rfl)

/-! ## a bank load resets exactly the per-bank overrides -/

theorem bank_resets_overrides (s : S) (vm lf ct : Nat) :
    let s' := (step s (.bankAccepted vm lf ct)).1
    s'.setup.volumeModel = 0 ∧ s'.setup.lfoEnable = -1 ∧ s'.setup.lfoFrequency = -1 ∧ s'.setup.chipType = -1 ∧
    s'.setup.numChips = s.setup.numChips ∧ s'.setup.emulator = s.setup.emulator ∧ s'.setup.autoArpeggio = s.setup.autoArpeggio ∧
    s'.devId = s.devId ∧ s'.hooks = s.hooks ∧ s'.seq = s.seq ∧ s'.live.chanAlloc = s.live.chanAlloc ∧
    (view s').lfoEnabled = (lf / 8 % 2 == 1) ∧ (view s').lfoFrequency = lf % 8 ∧ (view s').chipType = ct := by
  intro s'
  and_intros <;> rfl

/-! ## Consistent is established by every call -/

theorem consistent_init : Consistent ({} : S) := by unfold Consistent; decide

/-- applySetup establishes consistency whatever the live values were -/
theorem consistent_applySetup (s : S) : Consistent (applySetup s) := by
  obtain ⟨a, b, c, -⟩ := appliedScale_spec (applySetup_scale s)
  exact ⟨rfl, rfl, rfl, rfl, a, b, c, rfl⟩

theorem consistent_step (s : S) (op : Op) (h : Consistent s) : Consistent (step s op).1 := by
  have hc := h
  obtain ⟨h1, h2, h3, h4, h5, h5', h5l, h6⟩ := h
  cases op with simp only [step]
  -- a request is stored together with the value it puts in force
  | numChips n =>
    split
    · exact hc
    · exact ⟨rfl, h2, h3, h4, h5, h5', h5l, h6⟩
  | lfo v => exact ⟨h1, rfl, h3, h4, h5, h5', h5l, h6⟩
  | lfoFreq v => exact ⟨h1, h2, rfl, h4, h5, h5', h5l, h6⟩
  | scaleMod v => exact ⟨h1, h2, h3, h4, h5, h5', h5l, rfl⟩
  -- … the volume scale by the rule
  | logVol v =>
    obtain ⟨a, b, c, -⟩ := appliedScale_spec (logVol_scale s v)
    exact ⟨h1, h2, h3, h4, a, b, c, h6⟩
  | volModel v =>
    obtain ⟨a, b, c, -⟩ := appliedScale_spec (volModel_scale s v)
    exact ⟨h1, h2, h3, h4, a, b, c, h6⟩
  -- the call ends in `applySetup` (the music loads if a bank is there)
  | chipType v | bankAccepted vm lf ct => exact consistent_applySetup _
  | musicAccepted | musicRejected =>
    split
    · exact consistent_applySetup _
    · exact hc
  -- nothing that `Consistent` relates is touched
  | emulator _ | devId _ | tempo _ => split <;> exact hc
  | _ => exact hc

/-- **every reachable state is consistent** — for every sequence of configuration calls, bank loads, music loads (accepted or
    rejected) and resets, including the deprecated logarithmic-volume switch: what is in force is a function of what was
    requested, hence (`music_keeps`) loading a music file changes no setting and re-applying the setup at any later reset is
    the identity (`applySetup_fix`) -/
theorem consistent_reachable (ops : List Op) : Consistent (ops.foldl (fun s op => (step s op).1) {}) :=
  List.foldlRecOn ops _ consistent_init fun s h op _ => consistent_step s op h

/-- the explicit volume model wins over an earlier logarithmic-volume switch, now and after every later reset or load -/
theorem volModel_after_logVol (s : S) (l m : Int) (h1 : 1 ≤ m) (h5 : m ≤ 5) :
    let s' := (step (step s (.logVol l)).1 (.volModel m)).1
    (s'.live.volumeScale : Int) = m - 1 ∧ ((applySetup s').live.volumeScale : Int) = m - 1 := by
  intro s'
  exact ⟨(appliedScale_spec (volModel_scale _ m)).2.1 rfl h1 h5, (appliedScale_spec (applySetup_scale s')).2.1 rfl h1 h5⟩

end Opn.C18
