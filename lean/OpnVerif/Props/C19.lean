/-
  C19 — Only well-formed, correctly addressed SysEx messages take effect.
  `sysexParse` (Model/Synth.lean) is the pure recogniser that realTime_SysEx + doUniversalSysEx / doRolandSysEx /
  doYamahaSysEx implement; `realTimeSysEx` applies the recognised effect.
-/
import OpnVerif.Model.Synth

namespace Opn.C19
open Opn Opn.Synth

/-! ## rejected messages change nothing -/

/-- **reject_frame**: a message the recogniser does not accept is reported as rejected and leaves the whole
    synthesizer state (mode, controllers, notes, chip registers) exactly as it was. -/
theorem reject_frame (msg : List Nat) (s : S) (h : sysexParse msg s.devId s.midi.length = none) :
    (realTimeSysEx msg).run s = .ok (false, s) := by
  simp only [realTimeSysEx, StateT.run, bind, StateT.bind, get, getThe, MonadStateOf.get, StateT.get, pure, Except.pure,
    Except.bind, h]
  rfl

/-- acceptance is reported exactly when the recogniser accepts (when the effect itself does not fault) -/
theorem accept_reported (msg : List Nat) (s s' : S) (r : Bool) (h : (realTimeSysEx msg).run s = .ok (r, s')) :
    r = true ↔ (sysexParse msg s.devId s.midi.length).isSome := by
  cases hp : sysexParse msg s.devId s.midi.length with
  | none =>
    rw [reject_frame msg s hp] at h
    injection h with h; injection h with h1 h2
    simp [← h1]
  | some e =>
    simp only [Option.isSome_some, iff_true]
    simp only [realTimeSysEx, StateT.run, bind, StateT.bind, get, getThe, MonadStateOf.get, StateT.get, pure, Except.pure,
      Except.bind, hp] at h
    cases hm : applySysEx e s with
    | error f => rw [hm] at h; cases h
    | ok p =>
      rw [hm] at h
      simp only [StateT.pure, pure, Except.pure] at h
      injection h with h; injection h with h1 _; exact h1.symm

/-! ## what acceptance requires: framing, addressing, exact length, checksum -/

def framed (msg : List Nat) : Prop := msg.head? = some 0xF0 ∧ msg.getLast? = some 0xF7 ∧ 4 ≤ msg.length

/-- Roland checksum over address and data bytes -/
def rolandChecksumOk (msg : List Nat) : Prop :=
  let body := (msg.drop 5).take (msg.length - 7)
  (128 - (body.map b7).sum % 128) % 128 = b7 ((msg.drop (msg.length - 2)).head?.getD 0)

/-! The recogniser refuses a message as soon as one of its outer tests fails, before it looks at the payload: `simp` decides that
test and never enters the rest of `sysexParse` (splitting the whole recogniser instead is very slow to check).  The two
`accepted_…` theorems are the contrapositives. -/

theorem short_rejected (msg : List Nat) (dev n : Nat) (h : msg.length < 4) : sysexParse msg dev n = none := by
  simp [sysexParse, h]

/-- only Universal (7E non-real-time, 7F real-time), Roland (41) and Yamaha (43) messages are looked at, and only when the device
    byte (its low nibble for the two vendors) is the broadcast id or this device -/
theorem unaddressed_rejected (man d : Nat) (rest : List Nat) (dev n : Nat)
    (h : ¬ ((man = 0x7E ∨ man = 0x7F) ∧ (d = 0x7F ∨ d = dev) ∨ (man = 0x41 ∨ man = 0x43) ∧ (d = 0x7F ∨ d % 16 = dev))) :
    sysexParse (0xF0 :: man :: d :: rest) dev n = none := by
  by_cases hm : man = 0x7E ∨ man = 0x7F ∨ man = 0x41 ∨ man = 0x43
  · rcases hm with rfl | rfl | rfl | rfl <;> simp at h <;> simp [sysexParse, h]
  · simp only [not_or] at hm
    simp [sysexParse, hm]

theorem unframed_rejected (msg : List Nat) (dev n : Nat) (h : msg.head? ≠ some 0xF0 ∨ msg.getLast? ≠ some 0xF7 ∨ msg.length < 4) :
    sysexParse msg dev n = none := by
  match msg with
  | [] | [_] | [_, _] => exact short_rejected _ dev n (by simp)
  | a :: man :: d :: rest =>
    by_cases ha : a = 0xF0
    · subst ha
      rcases h with h | h | h
      · exact absurd rfl h
      · have h' : ((0xF0 :: man :: d :: rest).getLast? != some 0xF7) = true := by simpa using h
        simp only [sysexParse, h', if_true, ite_self]
      · exact short_rejected _ dev n h
    · simp [sysexParse, ha]

/-- **accepted ⇒ framed by F0 … F7** -/
theorem accepted_framed (msg : List Nat) (dev n : Nat) (e : SysExEffect) (h : sysexParse msg dev n = some e) : framed msg := by
  refine Classical.byContradiction fun hf => ?_
  rw [unframed_rejected msg dev n (by simpa only [framed, Classical.not_and_iff_not_or_not, Nat.not_le] using hf)] at h
  cases h

/-- the device byte of an accepted message addresses this device or is the broadcast id -/
theorem accepted_addressed (msg : List Nat) (dev n : Nat) (e : SysExEffect) (h : sysexParse msg dev n = some e) :
    ∃ man d rest, msg = 0xF0 :: man :: d :: rest ∧
      ((man = 0x7E ∨ man = 0x7F) ∧ (d = 0x7F ∨ d = dev) ∨ (man = 0x41 ∨ man = 0x43) ∧ (d = 0x7F ∨ d % 16 = dev)) := by
  obtain ⟨h0, -, h4⟩ := accepted_framed msg dev n e h
  match msg, h, h0, h4 with
  | [], _, _, h4 | [_], _, _, h4 | [_, _], _, _, h4 => exact absurd h4 (by simp)
  | a :: man :: d :: rest, h, h0, _ =>
    obtain rfl : a = 0xF0 := Option.some.inj h0
    refine ⟨man, d, rest, rfl, Classical.byContradiction fun hn => ?_⟩
    rw [unaddressed_rejected man d rest dev n hn] at h
    cases h

/-! ## every documented encoding is accepted, with its effect -/

theorem gm_on_accepted (dev d n : Nat) (hd : d = 0x7F ∨ d = dev) :
    sysexParse [0xF0, 0x7E, d, 0x09, 0x01, 0xF7] dev n = some .gmOn := by
  rcases hd with h | h <;> subst h <;> simp [sysexParse, b7]

theorem gm_off_accepted (dev d n : Nat) (hd : d = 0x7F ∨ d = dev) :
    sysexParse [0xF0, 0x7E, d, 0x09, 0x02, 0xF7] dev n = some .gmOff := by
  rcases hd with h | h <;> subst h <;> simp [sysexParse, b7]

theorem master_volume_accepted (dev d n lo hi : Nat) (hd : d = 0x7F ∨ d = dev) (hlo : lo < 128) (hhi : hi < 128) :
    sysexParse [0xF0, 0x7F, d, 0x04, 0x01, lo, hi, 0xF7] dev n = some (.masterVolume hi) := by
  have e1 : lo % 128 = lo := Nat.mod_eq_of_lt hlo
  have e2 : hi % 128 = hi := Nat.mod_eq_of_lt hhi
  have e3 : (lo + hi * 128) / 128 % 256 = hi := by omega
  rcases hd with h | h <;> subst h <;> simp [sysexParse, b7, e1, e2, e3]

/-- GS reset `F0 41 1n 42 12 40 00 7F 00 41 F7` for device n -/
theorem gs_reset_accepted (dev n : Nat) (hdev : dev < 16) :
    sysexParse [0xF0, 0x41, 0x10 + dev, 0x42, 0x12, 0x40, 0x00, 0x7F, 0x00, 0x41, 0xF7] dev n = some .gsReset := by
  have h1 : (0x10 + dev) % 16 = dev := by omega
  have h3 : dev / 16 = 0 := by omega
  simp [sysexParse, b7, h1, h3]

/-- XG System On `F0 43 1n 4C 00 00 7E 00 F7` for device n -/
theorem xg_on_accepted (dev n : Nat) (hdev : dev < 16) :
    sysexParse [0xF0, 0x43, 0x10 + dev, 0x4C, 0x00, 0x00, 0x7E, 0x00, 0xF7] dev n = some .xgOn := by
  have h1 : (0x10 + dev) % 16 = dev := by omega
  have h3 : dev / 16 = 0 := by omega
  simp [sysexParse, b7, h1, h3]

/-! ## single-byte deviations of a recognised message are rejected (the mutation classes the generator uses) -/

theorem gm_on_wrong_device (dev d n : Nat) (h1 : d ≠ 0x7F) (h2 : d ≠ dev) :
    sysexParse [0xF0, 0x7E, d, 0x09, 0x01, 0xF7] dev n = none := by
  simp [sysexParse, h1, h2]

theorem gm_on_trailing_payload (dev d n x : Nat) :
    sysexParse [0xF0, 0x7E, d, 0x09, 0x01, x, 0xF7] dev n = none := by
  simp [sysexParse, b7]

theorem gs_reset_bad_checksum (dev n c : Nat) (hc : c % 128 ≠ 0x41) :
    sysexParse [0xF0, 0x41, 0x10 + dev, 0x42, 0x12, 0x40, 0x00, 0x7F, 0x00, c, 0xF7] dev n = none := by
  simp [sysexParse, b7]
  intro _ h; exact absurd h.symm hc

end Opn.C19
