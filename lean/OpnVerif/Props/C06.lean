/-
  C06 — A new note never displaces a sounding note while a chip channel is idle.
  Arithmetic of calculateChipChannelGoodness (model: `goodnessP`) under the statement's 10-minute bound.
-/
import OpnVerif.Model.Synth
import OpnVerif.Lemmas.Int

namespace Opn.C06
open Opn Opn.Synth

theorem tdiv_eq_of_nonneg (x : Int) (c : Int) (h : 0 ≤ x) : Int.tdiv x c = x / c := Int.tdiv_eq_ediv_of_nonneg h

theorem tdiv_of_neg (x : Int) (c : Int) (h : x < 0) : Int.tdiv x c = -((-x) / c) :=
  Opn.tdiv_of_neg x c h

theorem tdiv1000_ge (x L : Int) (hL : L ≤ 0) (h : L * 1000 ≤ x) : L ≤ Int.tdiv x 1000 :=
  Int.le_tdiv_of_mul_le (by decide) h

theorem tdiv1000_le (x U : Int) (hU : 0 ≤ U) (h : x ≤ U * 1000) : Int.tdiv x 1000 ≤ U :=
  tdiv_le_of_le_mul (by decide) h

theorem tdiv2_ge (x L : Int) (hL : L ≤ 0) (h : L * 2 ≤ x) : L ≤ Int.tdiv x 2 :=
  Int.le_tdiv_of_mul_le (by decide) h

theorem tdiv2_le (x U : Int) (hU : 0 ≤ U) (h : x ≤ U * 2) : Int.tdiv x 2 ≤ U :=
  tdiv_le_of_le_mul (by decide) h

/-! ## the statement's bound: histories of at most 10 simulated minutes -/

/-- 10 minutes in milliseconds -/
def T : Int := 600000

/-- every user's key-on timer is at most 10 minutes below zero and at most the 16-bit instrument delay above it -/
def Young (chan : ChipCh) : Prop := ∀ u ∈ chan.users, -T * 1000 ≤ u.kon ∧ u.kon ≤ 65535 * 1000

def KoffOk (chan : ChipCh) : Prop := 0 ≤ chan.koff ∧ chan.koff ≤ 65535 * 1000

theorem KoffOk.ms {chan : ChipCh} (hk : KoffOk chan) : 0 ≤ Int.tdiv chan.koff 1000 ∧ Int.tdiv chan.koff 1000 ≤ 65535 :=
  tdiv_bounds (by decide) (by simpa using hk.1) hk.2

theorem userBonus_bounds (mc : Option MidiCh) (ins : Timbre) (u : User) : 0 ≤ userBonus mc ins u ∧ userBonus mc ins u ≤ 360 := by
  unfold userBonus
  split
  · split <;> split <;> (try split) <;> simp
  · simp

theorem userDelta_cases (mc : Option MidiCh) (ins : Timbre) (u : User) (h1 : -T * 1000 ≤ u.kon) (h2 : u.kon ≤ 65535 * 1000) :
    (-4065535 ≤ userDelta mc ins u ∧ userDelta mc ins u ≤ -199640) ∧
    (u.sus = 0 → userDelta mc ins u ≤ -3399640) ∧ (u.sus ≠ 0 → -532768 ≤ userDelta mc ins u) := by
  have a := tdiv_bounds (c := 1000) (L := -600000) (U := 65535) (by decide) h1 h2
  have b := tdiv_bounds (x := Int.tdiv u.kon 1000) (c := 2) (L := -300000) (U := 32768) (by decide) (by omega) (by omega)
  have hb := userBonus_bounds mc ins u
  unfold userDelta
  split
  · rename_i hs
    exact ⟨by omega, fun _ => by omega, fun h => absurd (eq_of_beq hs) h⟩
  · rename_i hs
    exact ⟨by omega, fun h => absurd (beq_iff_eq.2 h) hs, fun _ => by omega⟩

/-- a key-down user costs at least 3 399 640 points, a pedal-held one at least 199 640 and at most 532 768 -/
theorem userDelta_bounds (mc : Option MidiCh) (ins : Timbre) (u : User) (h1 : -T * 1000 ≤ u.kon) (h2 : u.kon ≤ 65535 * 1000) :
    (u.sus = 0 → userDelta mc ins u ≤ -3399640) ∧ (u.sus ≠ 0 → userDelta mc ins u ≤ -199640 ∧ -532768 ≤ userDelta mc ins u) := by
  have h := userDelta_cases mc ins u h1 h2
  exact ⟨h.2.1, fun hs => ⟨h.1.2, h.2.2 hs⟩⟩

theorem foldl_delta_bounds (midi : List MidiCh) (ins : Timbre) : ∀ (us : List User) (base : Int),
    (∀ u ∈ us, -T * 1000 ≤ u.kon ∧ u.kon ≤ 65535 * 1000) →
    base - 4065535 * us.length ≤ us.foldl (fun sc jd => sc + userDelta (midi[jd.midCh]?) ins jd) base ∧
    us.foldl (fun sc jd => sc + userDelta (midi[jd.midCh]?) ins jd) base ≤ base - 199640 * us.length
  | [], base, _ => by simp
  | u :: us, base, h => by
      obtain ⟨hu, hus⟩ := List.forall_mem_cons.1 h
      have hd := (userDelta_cases (midi[u.midCh]?) ins u hu.1 hu.2).1
      have ih := foldl_delta_bounds midi ins us (base + userDelta (midi[u.midCh]?) ins u) hus
      rw [List.foldl_cons, List.length_cons]
      omega

theorem foldl_delta_le (midi : List MidiCh) (ins : Timbre) : ∀ (us : List User) (base : Int),
    (∀ u ∈ us, -T * 1000 ≤ u.kon ∧ u.kon ≤ 65535 * 1000) →
    us.foldl (fun sc jd => sc + userDelta (midi[jd.midCh]?) ins jd) base ≤ base - 199640 * us.length
  | us, base, h => (foldl_delta_bounds midi ins us base h).2

theorem goodnessP_idle (midi : List MidiCh) (alloc : Int) (mm : Nat) (chan : ChipCh) (ins : Timbre)
    (hu : chan.users = []) (hk : KoffOk chan) :
    -105535 ≤ goodnessP midi alloc mm chan ins ∧ goodnessP midi alloc mm chan ins ≤ 0 := by
  have k := hk.ms
  -- whatever the allocation mode and the last instrument: 0, −koffMs or −koffMs − 40000
  fun_cases goodnessP midi alloc mm chan ins
  case case6 => rw [hu, List.foldl_nil]; omega
  all_goals omega

theorem goodnessP_busy (midi : List MidiCh) (alloc : Int) (mm : Nat) (chan : ChipCh) (ins : Timbre) (hu : chan.users ≠ []) :
    goodnessP midi alloc mm chan ins =
      chan.users.foldl (fun sc jd => sc + userDelta (midi[jd.midCh]?) ins jd) (-(Int.tdiv chan.koff 1000)) := by
  unfold goodnessP
  simp only [List.isEmpty_eq_false_iff.2 hu, Bool.and_false, Bool.false_eq_true, if_false]

theorem busy_bounds (midi : List MidiCh) (alloc : Int) (mm : Nat) (chan : ChipCh) (ins : Timbre)
    (hu : chan.users ≠ []) (hy : Young chan) :
    -(Int.tdiv chan.koff 1000) - 4065535 * chan.users.length ≤ goodnessP midi alloc mm chan ins ∧
    goodnessP midi alloc mm chan ins ≤ -(Int.tdiv chan.koff 1000) - 199640 * chan.users.length := by
  rw [goodnessP_busy midi alloc mm chan ins hu]
  exact foldl_delta_bounds midi ins chan.users _ hy

/-- **a chip channel without users scores at least −105 535** (whatever it released and however recently) -/
theorem idle_lower (midi : List MidiCh) (alloc : Int) (mm : Nat) (chan : ChipCh) (ins : Timbre)
    (hu : chan.users = []) (hk : KoffOk chan) : -105535 ≤ goodnessP midi alloc mm chan ins :=
  (goodnessP_idle midi alloc mm chan ins hu hk).1

/-- **a chip channel with at least one user scores at most −199 640** within the 10-minute bound -/
theorem busy_upper (midi : List MidiCh) (alloc : Int) (mm : Nat) (chan : ChipCh) (ins : Timbre)
    (hu : chan.users ≠ []) (hy : Young chan) (hk : 0 ≤ chan.koff) : goodnessP midi alloc mm chan ins ≤ -199640 := by
  have k := Int.tdiv_nonneg hk (by decide : (0 : Int) ≤ 1000)
  have := (busy_bounds midi alloc mm chan ins hu hy).2
  have := List.length_pos_iff.2 hu
  omega

/-- **C06: an idle chip channel always outscores a busy one**, in all four allocation modes -/
theorem idle_beats_busy (midi : List MidiCh) (alloc : Int) (mm : Nat) (a b : ChipCh) (ins : Timbre)
    (ha : a.users = []) (hka : KoffOk a) (hb : b.users ≠ []) (hyb : Young b) (hkb : 0 ≤ b.koff) :
    goodnessP midi alloc mm b ins < goodnessP midi alloc mm a ins := by
  have := idle_lower midi alloc mm a ins ha hka
  have := busy_upper midi alloc mm b ins hb hyb hkb
  omega

/-- **C06: a channel held only by one released-but-pedal-held note outscores every channel with a key-down note** -/
theorem pedal_held_first (midi : List MidiCh) (alloc : Int) (mm : Nat) (p q : ChipCh) (ins : Timbre) (u : User)
    (hp : p.users = [u]) (hus : u.sus ≠ 0) (hyp : Young p) (hkp : KoffOk p)
    (v : User) (hv : v ∈ q.users) (hvs : v.sus = 0) (hyq : Young q) (hkq : 0 ≤ q.koff) :
    goodnessP midi alloc mm q ins < goodnessP midi alloc mm p ins := by
  have lp : -598303 ≤ goodnessP midi alloc mm p ins := by
    have hup := hyp u (by rw [hp]; exact List.mem_singleton_self u)
    have du := (userDelta_bounds (midi[u.midCh]?) ins u hup.1 hup.2).2 hus
    have k := hkp.ms
    rw [goodnessP_busy midi alloc mm p ins (by rw [hp]; exact List.cons_ne_nil _ _), hp, List.foldl_cons, List.foldl_nil]
    omega
  -- the key-down user alone costs 3 399 640, the users before and after it only make it worse
  have uq : goodnessP midi alloc mm q ins ≤ -3399640 := by
    have k := Int.tdiv_nonneg hkq (by decide : (0 : Int) ≤ 1000)
    obtain ⟨l1, l2, hl⟩ := List.append_of_mem hv
    have hy : ∀ x ∈ l1 ++ v :: l2, -T * 1000 ≤ x.kon ∧ x.kon ≤ 65535 * 1000 := hl ▸ hyq
    rw [List.forall_mem_append, List.forall_mem_cons] at hy
    have dv := (userDelta_bounds (midi[v.midCh]?) ins v hy.2.1.1 hy.2.1.2).1 hvs
    have f1 := (foldl_delta_bounds midi ins l1 (-(Int.tdiv q.koff 1000)) hy.1).2
    rw [goodnessP_busy midi alloc mm q ins (List.ne_nil_of_mem hv), hl, List.foldl_append, List.foldl_cons]
    refine Int.le_trans (foldl_delta_bounds midi ins l2 _ hy.2.2).2 ?_
    omega
  omega

/-- the 10-minute bound is needed: a key held for 67 minutes makes its busy channel outscore an idle one -/
theorem old_note_counterexample :
    let old : User := { midCh := 0, key := 60, sus := 0, timbre := Timbre.zero, fixedSustain := false, kon := -4000000000, vibdelay := 0 }
    let busy : ChipCh := { koff := 0, recent := Timbre.zero, users := [old] }
    let idle : ChipCh := { koff := 1000, recent := { Timbre.zero with fbalg := 1 }, users := [] }
    goodnessP [] (-1) 0 idle Timbre.zero < goodnessP [] (-1) 0 busy Timbre.zero := by decide +kernel

/-- the score always fits the `int32_t` it is truncated to in realTime_NoteOn (so the cast is the identity) -/
theorem score_fits_int32 (midi : List MidiCh) (alloc : Int) (mm : Nat) (chan : ChipCh) (ins : Timbre)
    (hy : Young chan) (hk : KoffOk chan) (hn : chan.users.length ≤ 128) :
    -2147483647 < goodnessP midi alloc mm chan ins ∧ goodnessP midi alloc mm chan ins < 2147483647 := by
  by_cases hu : chan.users = []
  · have := goodnessP_idle midi alloc mm chan ins hu hk
    omega
  · -- 128 users at 4 065 535 points each stay far above −2^31
    have := busy_bounds midi alloc mm chan ins hu hy
    have k := hk.ms
    omega

/-! ## from the score to the allocation: the selection loop is an argmax, and an idle channel is taken without moving anybody -/

theorem cast32_id (x : Int) (h1 : -2147483648 ≤ x) (h2 : x < 2147483648) : toSigned 32 (ofSigned 32 x) = x := by
  unfold toSigned ofSigned
  simp only [Nat.reducePow, Nat.reduceSub]
  omega

/-- the selection loop returns the running best unless a later channel scores strictly higher, and what it returns is a maximum -/
theorem selectFrom_spec (s : S) (ins : Timbre) (g : Nat → Int) : ∀ (l : List Nat) (best : Option Nat) (bs : Int),
    (∀ a ∈ l, goodness s a ins = .ok (g a) ∧ -2147483648 ≤ g a ∧ g a < 2147483648) →
    ∃ r, selectFrom s ins l best bs = .ok r ∧
      ((r = best ∧ ∀ a ∈ l, g a ≤ bs) ∨ (∃ c ∈ l, r = some c ∧ bs < g c ∧ ∀ a ∈ l, g a ≤ g c)) := by
  intro l
  induction l with
  | nil => intro best bs _; exact ⟨best, rfl, Or.inl ⟨rfl, by simp⟩⟩
  | cons a rest ih =>
    intro best bs h
    obtain ⟨ha, hrest⟩ := List.forall_mem_cons.1 h
    unfold selectFrom
    rw [ha.1]
    by_cases hgt : g a > bs
    · simp only [hgt, if_true]
      rw [cast32_id (g a) ha.2.1 ha.2.2]
      obtain ⟨r, hr, hcase⟩ := ih (some a) (g a) hrest
      refine ⟨r, hr, Or.inr ?_⟩
      rcases hcase with ⟨hre, hall⟩ | ⟨c, hc, hre, hlt, hall⟩
      · exact ⟨a, List.mem_cons_self, hre, hgt, List.forall_mem_cons.2 ⟨Int.le_refl _, hall⟩⟩
      · exact ⟨c, List.mem_cons_of_mem a hc, hre, Int.lt_trans hgt hlt, List.forall_mem_cons.2 ⟨Int.le_of_lt hlt, hall⟩⟩
    · simp only [hgt, if_false]
      have hle : g a ≤ bs := Int.not_lt.1 hgt
      obtain ⟨r, hr, hcase⟩ := ih best bs hrest
      refine ⟨r, hr, ?_⟩
      rcases hcase with ⟨hre, hall⟩ | ⟨c, hc, hre, hlt, hall⟩
      · exact Or.inl ⟨hre, List.forall_mem_cons.2 ⟨hle, hall⟩⟩
      · exact Or.inr ⟨c, List.mem_cons_of_mem a hc, hre, hlt, List.forall_mem_cons.2 ⟨Int.le_of_lt (Int.lt_of_le_of_lt hle hlt), hall⟩⟩

/-- the state the score theorems speak about: within the 10-minute bound, timers in range, users address existing MIDI channels -/
def Wf (s : S) : Prop := ∀ (c : Nat) (chan : ChipCh), s.chip[c]? = some chan →
  Young chan ∧ KoffOk chan ∧ chan.users.length ≤ 128 ∧ ∀ u ∈ chan.users, u.midCh < s.midi.length

def scoreOf (s : S) (ins : Timbre) (a : Nat) : Int :=
  match s.chip[a]? with
  | some chan => goodnessP s.midi s.chanAlloc s.musicMode chan ins
  | none => 0

theorem scoreOf_eq (s : S) (ins : Timbre) {a : Nat} {chan : ChipCh} (h : s.chip[a]? = some chan) :
    scoreOf s ins a = goodnessP s.midi s.chanAlloc s.musicMode chan ins := by
  unfold scoreOf
  rw [h]

theorem scoreOf_fits (s : S) (ins : Timbre) (hw : Wf s) (a : Nat) (ha : a < s.chip.length) :
    -2147483647 < scoreOf s ins a ∧ scoreOf s ins a < 2147483647 := by
  have hget : s.chip[a]? = some s.chip[a] := List.getElem?_eq_getElem ha
  obtain ⟨hy, hk, hn, _⟩ := hw a _ hget
  rw [scoreOf_eq s ins hget]
  exact score_fits_int32 s.midi s.chanAlloc s.musicMode s.chip[a] ins hy hk hn

theorem goodness_ok (s : S) (ins : Timbre) (hw : Wf s) (a : Nat) (ha : a < s.chip.length) :
    goodness s a ins = .ok (scoreOf s ins a) ∧ -2147483648 ≤ scoreOf s ins a ∧ scoreOf s ins a < 2147483648 := by
  have hget : s.chip[a]? = some s.chip[a] := List.getElem?_eq_getElem ha
  have hf : s.chip[a].users.find? (fun jd => decide (jd.midCh ≥ s.midi.length)) = none := by
    rw [List.find?_eq_none]
    intro u hu
    have := (hw a _ hget).2.2.2 u hu
    simp; omega
  have hb := scoreOf_fits s ins hw a ha
  refine ⟨?_, by omega, by omega⟩
  unfold goodness
  rw [hget, scoreOf_eq s ins hget]
  simp only [hf]

/-- **C06: the channel a new note gets is one with the greatest score** (no fault, no wrap of the 32-bit cast) -/
theorem selectChannel_argmax (s : S) (ins : Timbre) (hw : Wf s) (hne : 0 < s.chip.length) :
    ∃ c, selectChannel s ins = .ok (some c) ∧ c < s.chip.length ∧ ∀ a, a < s.chip.length → scoreOf s ins a ≤ scoreOf s ins c := by
  -- `liveChannels s` is `s.chip.length`
  obtain ⟨r, hr, hcase⟩ := selectFrom_spec s ins (scoreOf s ins) (List.range (liveChannels s)) none (-2147483647)
    fun a ha => goodness_ok s ins hw a (List.mem_range.1 ha)
  rcases hcase with ⟨_, hle⟩ | ⟨c, hc, hre, _, hmax⟩
  · -- impossible: channel 0 scores above the initial -2147483647
    have h0 := hle 0 (List.mem_range.2 hne)
    have := scoreOf_fits s ins hw 0 hne
    omega
  · refine ⟨c, ?_, List.mem_range.1 hc, fun a ha => hmax a (List.mem_range.2 ha)⟩
    unfold selectChannel
    rw [hr, hre]

/-- **C06: while a chip channel is idle, the new note gets an idle channel** — and (`prepare_idle_noop`) taking it moves nobody -/
theorem new_note_takes_idle_channel (s : S) (ins : Timbre) (hw : Wf s) (a : Nat) (chanA : ChipCh)
    (ha : s.chip[a]? = some chanA) (hidle : chanA.users = []) :
    ∃ c chanC, selectChannel s ins = .ok (some c) ∧ s.chip[c]? = some chanC ∧ chanC.users = [] := by
  obtain ⟨hlen, _⟩ := List.getElem?_eq_some_iff.1 ha
  obtain ⟨c, hsel, hc, hmax⟩ := selectChannel_argmax s ins hw (Nat.zero_lt_of_lt hlen)
  have hgc : s.chip[c]? = some s.chip[c] := List.getElem?_eq_getElem hc
  refine ⟨c, s.chip[c], hsel, hgc, ?_⟩
  refine Classical.byContradiction fun hbusy => ?_
  obtain ⟨hyc, hkc, _, _⟩ := hw c _ hgc
  obtain ⟨_, hka, _, _⟩ := hw a _ ha
  have hlt := idle_beats_busy s.midi s.chanAlloc s.musicMode chanA s.chip[c] ins hidle hka hbusy hyc hkc.1
  have hle := hmax a hlen
  rw [scoreOf_eq s ins ha, scoreOf_eq s ins hgc] at hle
  omega

/-- taking an idle channel releases, kills and evacuates nobody: prepareChipChannelForNewNote leaves the whole state as it was -/
theorem prepare_idle_noop (s : S) (c : Nat) (ins : Timbre) (chan : ChipCh) (hc : s.chip[c]? = some chan) (hu : chan.users = []) :
    (prepareChipChannelForNewNote c ins).run s = .ok ((), s) := by
  unfold prepareChipChannelForNewNote getChip
  simp [hc, hu, StateT.run, bind, StateT.bind, get, getThe, MonadStateOf.get, StateT.get, pure, StateT.pure, Except.bind, Except.pure]

/-- the hypotheses are met by a reachable state with idle channels: the fresh synthesizer (so the theorems are not vacuous) -/
theorem wf_init : Wf Synth.init := by
  intro c chan h
  have hm : chan ∈ Synth.init.chip := List.mem_of_getElem? h
  have : chan = ChipCh.fresh := by
    simp only [Synth.init] at hm
    exact List.eq_of_mem_replicate hm
  subst this
  refine ⟨?_, ?_, ?_, ?_⟩ <;> simp [Young, KoffOk, ChipCh.fresh]

example : ∃ c chanC, selectChannel Synth.init Timbre.zero = .ok (some c) ∧ Synth.init.chip[c]? = some chanC ∧ chanC.users = [] :=
  new_note_takes_idle_channel Synth.init Timbre.zero wf_init 3 ChipCh.fresh (by simp [Synth.init]) rfl

end Opn.C06
