/-
  C07 — The sequencer delivers every file event once, in order, at the right time.
  Theorems about the row builder of Model/Seq.lean: `sortEvents` (MidiTrackRow::sortEvents) delivers every event of a
  tick exactly once, with controllers / program changes in front of the note-ons and in file order inside each class;
  variable-length quantities never move the cursor backwards; End-of-Track alone at its tick takes the preceding row's place.
-/
import OpnVerif.Model.Seq

namespace Opn.C07
open Opn Opn.Seq

/-- reading a variable-length quantity never moves the cursor backwards -/
theorem readVarLen_le : ∀ (bs : Bytes) (acc : Nat), (readVarLen bs acc).2.length ≤ bs.length
  | bs, acc => by
    fun_induction readVarLen bs acc
    case case1 => exact Nat.le_refl _
    case case2 ih => exact Nat.le_succ_of_le ih
    case case3 => exact Nat.le_succ _

/-! ## every event of a row is delivered exactly once -/

theorem filter_split (p : α → Bool) (l : List α) : (l.filter p ++ l.filter (fun x => !p x)).Perm l :=
  List.filter_append_perm p l

/-- the inner loop only distributes the note-offs over "kept in front" and "moved behind" -/
theorem siftOffs_perm (e : Ev) (wasOn : Bool) : ∀ (offs : List Ev) (cnt : Nat) (m : Bool),
    ((siftOffs e wasOn offs cnt m).1 ++ (siftOffs e wasOn offs cnt m).2.1).Perm offs
  | offs, cnt, m => by
    fun_induction siftOffs e wasOn offs cnt m
    case case1 => exact .nil
    case case2 hx ih =>
      rw [hx] at ih
      exact List.perm_middle.trans (ih.cons _)
    case case3 hx ih | case4 hx ih =>
      rw [hx] at ih
      exact ih.cons _

theorem siftAll_perm (states : List Nat) : ∀ (other offs moved : List Ev) (marks : List Nat),
    ((siftAll states other offs moved marks).1 ++ (siftAll states other offs moved marks).2.1).Perm (offs ++ moved)
  | other, offs, moved, marks => by
    fun_induction siftAll states other offs moved marks
    case case1 => exact .refl _
    case case2 hx _ ih =>
      have hp := hx ▸ siftOffs_perm _ _ _ _ _
      refine ih.trans ((List.perm_append_comm.append_left _).trans ?_)
      rw [← List.append_assoc]
      exact hp.append_right _
    case case3 ih => exact ih

/-- five-way partition by a cascade of predicates: the two-way partition, four times -/
theorem part5 {α} (p1 p2 p3 p4 : α → Bool) (l : List α) :
    (l.filter p1 ++ (l.filter (fun x => !p1 x && p2 x) ++ (l.filter (fun x => !p1 x && !p2 x && p3 x) ++
      (l.filter (fun x => !p1 x && !p2 x && !p3 x && p4 x) ++ l.filter (fun x => !p1 x && !p2 x && !p3 x && !p4 x))))).Perm l :=
  -- the part of `l` that passes `q`, split once more by `p`
  have split (q p : α → Bool) : (l.filter (fun x => q x && p x) ++ l.filter (fun x => q x && !p x)).Perm (l.filter q) := by
    simpa only [List.filter_filter, Bool.and_comm] using filter_split p (l.filter q)
  (((((split _ p4).append_left _).trans (split _ p3)).append_left _).trans (split _ p2)).append_left _ |>.trans (filter_split p1 l)

/-- **each once**: the sorted row is a permutation of the events of the tick (nothing dropped, nothing duplicated),
    for every row and every note-state cache -/
theorem sortEvents_perm (events : List Ev) (states : List Nat) : (sortEvents events states).1.Perm events := by
  fun_cases sortEvents events states
  rename_i noteOffs sysEx ctl metas other offs moved marks hx _ _
  refine .trans ?_ (part5 (·.type == tNoteOff) isSysExClass isCtlClass isMetaClass events)
  -- the kept and the moved note-offs together are the note-offs; the rest is a reshuffle of the blocks
  show (sysEx ++ offs ++ metas ++ ctl ++ other ++ moved).Perm (noteOffs ++ (sysEx ++ (ctl ++ (metas ++ other))))
  refine List.perm_iff_count.mpr fun a => ?_
  have := (hx ▸ siftAll_perm states other noteOffs [] []).count_eq a
  simp only [List.count_append, List.count_nil] at this ⊢
  omega

/-- the note-ons of a row all lie in the last block of the sorted row (behind every controller / program change / bend) -/
theorem noteOn_not_ctl (e : Ev) (h : e.type = tNoteOn) : isCtlClass e = false ∧ isSysExClass e = false ∧ (e.type == tNoteOff) = false := by
  simp [isCtlClass, isSysExClass, h, tNoteOn, tCtrl, tPatch, tWheel, tChanAT, tSysEx, tSysEx2, tNoteOff]

/-- the kept and the moved note-offs are note-offs of the row -/
theorem sift_members (events : List Ev) (states : List Nat) (e : Ev)
    (h : e ∈ (siftAll states (events.filter (fun e => e.type != tNoteOff && !isSysExClass e && !isCtlClass e && !isMetaClass e))
                (events.filter (·.type == tNoteOff)) [] []).1 ∨
         e ∈ (siftAll states (events.filter (fun e => e.type != tNoteOff && !isSysExClass e && !isCtlClass e && !isMetaClass e))
                (events.filter (·.type == tNoteOff)) [] []).2.1) : e.type = tNoteOff := by
  have hmem := (siftAll_perm states _ _ [] []).subset (List.mem_append.2 h)
  rw [List.append_nil, List.mem_filter] at hmem
  exact beq_iff_eq.1 hmem.2

/-- **controllers and program changes before note-ons**: the sorted row is `front ++ rest` where `front` (SysEx, kept
    note-offs, markers, then all controller / program / bend / channel-pressure events) holds no note-on and `rest`
    (everything else in file order, then the note-offs of zero-length notes) holds no controller-class event -/
theorem sortEvents_ctl_before_on (events : List Ev) (states : List Nat) :
    ∃ front rest, (sortEvents events states).1 = front ++ rest ∧ (∀ e ∈ front, e.type ≠ tNoteOn) ∧ (∀ e ∈ rest, isCtlClass e = false) := by
  fun_cases sortEvents events states
  rename_i noteOffs sysEx ctl metas other offs moved marks hx _ _
  have hmem : ∀ e, e ∈ offs ∨ e ∈ moved → e.type = tNoteOff := fun e h => sift_members events states e (hx ▸ h)
  refine ⟨sysEx ++ offs ++ metas ++ ctl, other ++ moved, by simp only [List.append_assoc], ?_, ?_⟩
  · intro e he hon
    obtain ⟨hc, hs, _⟩ := noteOn_not_ctl e hon
    have hm : isMetaClass e = false := by simp [isMetaClass, hon, tNoteOn, tSpecial]
    -- of the four blocks of `front` only the kept note-offs are left for `e`
    simp +zetaDelta [hc, hs, hm] at he
    exact absurd ((hmem e (.inl he)).symm.trans hon) (by decide)
  · intro e he
    rcases List.mem_append.1 he with h | h
    · cases hc : isCtlClass e
      · rfl
      · simp +zetaDelta [hc] at h
    · simp [isCtlClass, hmem e (.inr h), tNoteOff, tCtrl, tPatch, tWheel, tChanAT]

/-- file order is kept inside the controller class (a filter never reorders) -/
theorem ctl_order_kept (events : List Ev) :
    (events.filter (fun e => e.type != tNoteOff && !isSysExClass e && isCtlClass e)).Sublist events := List.filter_sublist

/-- an End-of-Track standing alone at its tick takes the place of the preceding row: that row's delay is cleared, so the
    track's last real event and the End-of-Track are due at the same moment (trailing silence is skipped) -/
theorem clearLastDelay_spec (rows : List Row) (r : Row) :
    clearLastDelay (rows ++ [r]) = rows ++ [{ r with delay := 0, timeDelay := 0 }] := by
  simp [clearLastDelay]

/-! ## track and channel gating (handleEvent) -/

/-- the timing events that are never gated: tempo and time signature of track 0 in format 0/1 files -/
def isTrack0Timing (s : Seq) (track : Nat) (e : Ev) : Bool :=
  track == 0 && s.smfFormat < 2 && e.type == tSpecial && (e.subtype == stTempo || e.subtype == stTimeSig)

/-- **a disabled track contributes nothing**: its events reach neither the raw event hook nor the synthesizer and leave the
    sequencer state alone — except the tempo / time-signature events of track 0 -/
theorem disabled_track_silent (s : Seq) (track : Nat) (e : Ev) (st : Int)
    (hd : s.trackDisable.getD track false = true) (ht : isTrack0Timing s track e = false) :
    handleEvent s track e st = (s, st, []) := by
  unfold handleEvent
  exact if_pos (by rw [isTrack0Timing] at ht; simp only [ht, hd, Bool.not_false, Bool.or_true, Bool.and_true])

/-- the same for every track but the solo track -/
theorem non_solo_track_silent (s : Seq) (track solo : Nat) (e : Ev) (st : Int)
    (hs : s.solo = some solo) (hne : track ≠ solo) (ht : isTrack0Timing s track e = false) :
    handleEvent s track e st = (s, st, []) := by
  unfold handleEvent
  exact if_pos (by rw [isTrack0Timing] at ht; simp only [ht, hs, bne_iff_ne.2 hne, Bool.not_false, Bool.true_or, Bool.and_true])

/-- **tempo events of track 0 still apply** when track 0 is disabled: the tempo is taken over (and the event is shown to the
    raw event hook) -/
theorem track0_tempo_applies (s : Seq) (e : Ev) (st : Int) (hf : s.smfFormat < 2)
    (he : e.type = tSpecial) (hsub : e.subtype = stTempo) (t : Frac) (hm : Frac.mul s.invDelta { n := readBE e.data, d := 1 } = .ok t) :
    handleEvent s 0 e st = ({ s with tempo := t }, st, [Out.event 0 e]) := by
  unfold handleEvent
  simp [hf, he, hsub, hm, tSpecial, tSysEx, tSysEx2, stTempo, stEndTrack, stTimeSig]

/-- **a disabled channel receives no notes**: a note-on or note-off for a disabled MIDI channel (no device offset) is shown to
    the raw event hook but never reaches the synthesizer -/
theorem disabled_channel_no_notes (s : Seq) (track : Nat) (e : Ev) (st : Int)
    (hsolo : s.solo = none) (hd : s.trackDisable.getD track false = false)
    (hn : e.type = tNoteOn ∨ e.type = tNoteOff) (hdev : currentDevice s track = 0) (hch : e.channel < 16)
    (hc : s.chanDisable.getD e.channel false = true) :
    (handleEvent s track e st).2.2 = [Out.event track e] := by
  unfold handleEvent
  rcases hn with hn | hn <;>
    simp [-List.getD_eq_getElem?_getD, hn, hsolo, hd, hdev, hch, hc, tNoteOn, tNoteOff, tSpecial, tSysEx, tSysEx2, tSongSel, tSongPos]

end Opn.C07
