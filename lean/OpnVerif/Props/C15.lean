/-
  C15 — WOPN/OPNI serialisation round-trips and never writes past its buffer.
-/
import OpnVerif.Lemmas.Wopn

namespace Opn.C15
open Opn Opn.Wopn

/-! ## the regenerated constants are the ones the model's literals stand for -/

theorem inst_sizes : Gen.wopnInstSizeV1 = 65 ∧ Gen.wopnInstSizeV2 = 69 := by decide
theorem latest_version : Gen.wopnLatestVersion = 2 := by decide
theorem magic_lengths : Gen.wopnMagic1.length = 11 ∧ Gen.wopnMagic2.length = 11 ∧
    Gen.opniMagic1.length = 11 ∧ Gen.opniMagic2.length = 11 := by decide
theorem magics_differ : Gen.wopnMagic1 ≠ Gen.wopnMagic2 ∧ Gen.opniMagic1 ≠ Gen.opniMagic2 := by decide
theorem blank_flag : Gen.wopnInsBlank = 2 := by decide
theorem err_codes : Gen.wopnErrOk = 0 ∧ Gen.wopnErrUnexpectedEnding ≠ 0 := by decide

theorem shape_names (bs : List Bank) (h : ∀ b ∈ bs, b.Shape) : ∀ b ∈ bs, b.name.length = 33 :=
  fun b hb => (h b hb).name_len

theorem shape_ops (bs : List Bank) (h : ∀ b ∈ bs, b.Shape) : ∀ i ∈ allInsts bs, i.ops.length = 28 :=
  fun i hi => (allInsts_shape h i hi).ops_len

theorem shape_128 (bs : List Bank) (h : ∀ b ∈ bs, b.Shape) : ∀ b ∈ bs, b.ins.length = 128 :=
  fun b hb => (h b hb).ins_len

theorem take1_shape (bs : List Bank) (h : ∀ b ∈ bs, b.Shape) : ∀ b ∈ bs.take 1, b.Shape :=
  fun b hb => h b (List.mem_of_mem_take hb)

theorem header_bytes (n : Nat) (h : n < 65536) : 256 * ((n / 256) % 256) + n % 256 = n := u16be_roundtrip n h

theorem readVersion_v2 (m1 m2 rest : Bytes) (h2 : m2.length = 11) (hne : ¬ m2 = m1) :
    readVersion m1 m2 (m2 ++ (putU16le 2 ++ rest)) = .ok (.ok (2, rest)) := by
  unfold readVersion
  rw [if_neg (by simp [h2]), rd_append _ _ h2]
  simp [hne, putU16le, latest_version]

theorem readVersion_v1 (m1 m2 rest : Bytes) (h1 : m1.length = 11) :
    readVersion m1 m2 (m1 ++ rest) = .ok (.ok (1, rest)) := by
  simp [readVersion, rd_append _ _ h1, h1]

theorem loadBankBody_cons (v h0 h1 h2 h3 h4 : Nat) (cur : Bytes) :
    loadBankBody v (h0 :: h1 :: h2 :: h3 :: h4 :: cur) =
      (match readMetasBoth v (256 * h0 + h1) (256 * h2 + h3) cur with
      | .error e => .error e
      | .ok none => .ok (.err Gen.wopnErrUnexpectedEnding)
      | .ok (some (mm, pm, cur)) =>
        match readSections v (256 * h0 + h1) (256 * h2 + h3) cur with
        | .error e => .error e
        | .ok none => .ok (.err Gen.wopnErrUnexpectedEnding)
        | .ok (some (mi, pi)) =>
          .ok (.ok { version := v, lfoFreq := h4 % 16, chipType := if v ≥ 2 then (h4 / 16) % 2 else 0,
                     volumeModel := 0, melodic := buildBanks (256 * h0 + h1) mm mi,
                     percussive := buildBanks (256 * h2 + h3) pm pi })) :=
  if_neg (by simp)

theorem readVersion_image (v : Nat) (hv : v = 1 ∨ v = 2) (rest : Bytes) :
    readVersion Gen.wopnMagic1 Gen.wopnMagic2 ((if v > 1 then Gen.wopnMagic2 ++ putU16le v else Gen.wopnMagic1) ++ rest) =
      .ok (.ok (v, rest)) := by
  rcases hv with rfl | rfl
  · exact readVersion_v1 _ _ _ magic_lengths.1
  · rw [if_pos (by decide), List.append_assoc]
    exact readVersion_v2 _ _ _ magic_lengths.2.1 fun h => magics_differ.1 h.symm

theorem readMetasBoth_image (v : Nat) (mel per : List Bank) (hm : ∀ b ∈ mel, b.Shape) (hp : ∀ b ∈ per, b.Shape) (rest : Bytes) :
    readMetasBoth v mel.length per.length ((if v ≥ 2 then mel.flatMap metaBytes ++ per.flatMap metaBytes else []) ++ rest) =
      .ok (some (if v ≥ 2 then mel.map metaOf else [], if v ≥ 2 then per.map metaOf else [], rest)) := by
  unfold readMetasBoth
  by_cases hv : v ≥ 2
  · simp only [if_pos hv, List.append_assoc, readMetas_write mel _ hm, readMetas_write per _ hp]
  · simp only [if_neg hv, List.nil_append]

/-- the instrument sections of a stored image are read back as the canonical instruments -/
theorem sections_image (f : WFile) (hs : f.Shape) (v : Nat) (hv : v = 1 ∨ v = 2) (extra : Bytes) :
    readSections v f.melodic.length f.percussive.length
      ((allInsts f.melodic).flatMap (writeInst v true) ++ ((allInsts f.percussive).flatMap (writeInst v true) ++ extra)) =
      .ok (some ((allInsts f.melodic).map (canonInst v true), (allInsts f.percussive).map (canonInst v true))) := by
  have hv3 : v < 3 := by omega
  have l1 : _ = instSize v * 128 * _ := section_length v _ hs.mel_s
  have l2 : _ = instSize v * 128 * _ := section_length v _ hs.per_s
  unfold readSections
  rw [if_neg (by rw [List.length_append, l1]; omega), ← allInsts_length _ (shape_128 _ hs.mel_s),
    readInsts_write v hv3 _ _ (allInsts_shape hs.mel_s)]
  simp only
  rw [if_neg (by rw [List.length_append, l2]; omega), ← allInsts_length _ (shape_128 _ hs.per_s),
    readInsts_write v hv3 _ _ (allInsts_shape hs.per_s)]

theorem buildBanks_image (v : Nat) (bs : List Bank) (hpos : 1 ≤ bs.length) (h : ∀ b ∈ bs, b.Shape) :
    buildBanks bs.length (if v ≥ 2 then bs.map metaOf else []) ((allInsts bs).map (canonInst v true)) =
      bs.map (canonBank v) := by
  have h128 := shape_128 bs h
  unfold buildBanks initBanks
  rw [if_neg (by omega), if_neg (by omega)]
  by_cases hv : v ≥ 2
  · rw [if_pos hv, applyMetas_map, fillBanks_map _ _ bs h128]
    exact List.map_congr_left fun b _ => by simp only [canonBank, if_pos hv, metaOf]
  · rw [if_neg hv, applyMetas_nil, ← List.map_const', fillBanks_map _ _ bs h128]
    exact List.map_congr_left fun b _ => by simp only [canonBank, if_neg hv]; rfl

/-- the lfo/chip byte of the header decodes to the two fields it was made of -/
theorem flags_byte (v l c : Nat) :
    (l % 16 + (if v ≥ 2 then c % 2 * 16 else 0)) % 16 = l % 16 ∧
    (if v ≥ 2 then (l % 16 + (if v ≥ 2 then c % 2 * 16 else 0)) / 16 % 2 else 0) = if v ≥ 2 then c % 2 else 0 := by
  split
  · rw [Nat.add_mul_mod_self_right, Nat.mod_mod, Nat.add_mul_div_right _ _ (by decide),
      Nat.div_eq_of_lt (Nat.mod_lt _ (by decide)), Nat.zero_add, Nat.mod_mod]
    exact ⟨rfl, rfl⟩
  · exact ⟨Nat.mod_mod _ _, rfl⟩

/-- **loading what the saver stores**: the stored image (followed by any bytes) loads as `canonFile v f` -/
theorem load_image (f : WFile) (hs : f.Shape) (v : Nat) (hv : v = 1 ∨ v = 2) (extra : Bytes) :
    loadBank (image f v ++ extra) = .ok (.ok (canonFile v f)) := by
  unfold loadBank image
  rw [List.append_assoc, readVersion_image v hv]
  simp only [putU16be, List.cons_append, List.nil_append, List.append_assoc, loadBankBody_cons,
    header_bytes _ hs.mel_lt, header_bytes _ hs.per_lt, readMetasBoth_image v _ _ hs.mel_s hs.per_s,
    sections_image f hs v hv, buildBanks_image v _ hs.mel_pos hs.mel_s, buildBanks_image v _ hs.per_pos hs.per_s,
    flags_byte]
  rfl

/-- **version 2**: loading the stored image (followed by any bytes) yields `canonFile 2 f` -/
theorem load_image_v2 (f : WFile) (hs : f.Shape) (extra : Bytes) :
    loadBank (image f 2 ++ extra) = .ok (.ok (canonFile 2 f)) :=
  load_image f hs 2 (.inr rfl) extra

/-- **version 1**: loading the stored image yields `canonFile 1 f` (bank names/numbers, delays, blank flags, chip type dropped) -/
theorem load_image_v1 (f : WFile) (hs : f.Shape) (extra : Bytes) :
    loadBank (image f 1 ++ extra) = .ok (.ok (canonFile 1 f)) :=
  load_image f hs 1 (.inl rfl) extra

theorem gm_shape (gm : Bool) (bs : List Bank) (h : ∀ b ∈ bs, b.Shape) : ∀ b ∈ (if gm then bs.take 1 else bs), b.Shape := by
  split
  · exact take1_shape bs h
  · exact h

/-- **the save stages as a whole**: run on the bank lists `mel`, `per` they store the image of `f` with these bank lists,
    or stop short inside the destination -/
theorem saveStages_stores (f : WFile) (v : Nat) (mel per : List Bank) (hm : ∀ b ∈ mel, b.Shape) (hp : ∀ b ∈ per, b.Shape) :
    Stores (saveStages f v mel per) (image { f with melodic := mel, percussive := per } v) := by
  have S := (writeHead_stores _ _ magic_lengths.1 magic_lengths.2.1 v).andThen
    ((writeCounts_stores f v mel.length per.length).andThen
      ((writeMetasBoth_stores v mel per (shape_names mel hm) (shape_names per hp)).andThen
        (writeSections_stores v mel per hm hp)))
  rwa [List.append_assoc, List.append_assoc] at S

/-- the number of bytes a successful save stores -/
def imageLen (v nm np : Nat) : Nat :=
  (if v > 1 then 13 else 11) + 5 + (if v ≥ 2 then 34 * nm + 34 * np else 0) +
    (if v ≥ 2 then 69 else 65) * 128 * nm + (if v ≥ 2 then 69 else 65) * 128 * np

theorem image_len (f : WFile) (hm : ∀ b ∈ f.melodic, b.Shape) (hp : ∀ b ∈ f.percussive, b.Shape) (v : Nat) :
    (image f v).length = imageLen v f.melodic.length f.percussive.length := by
  have hd : (if v > 1 then Gen.wopnMagic2 ++ putU16le v else Gen.wopnMagic1).length = if v > 1 then 13 else 11 := by
    split <;> rfl
  have hmeta : (if v ≥ 2 then f.melodic.flatMap metaBytes ++ f.percussive.flatMap metaBytes else []).length =
      if v ≥ 2 then 34 * f.melodic.length + 34 * f.percussive.length else 0 := by
    split
    · rw [List.length_append, length_flatMap_of_const _ fun b hb => metaBytes_length b (shape_names _ hm b hb),
        length_flatMap_of_const _ fun b hb => metaBytes_length b (shape_names _ hp b hb), Nat.mul_comm 34, Nat.mul_comm 34]
    · rfl
  unfold image imageLen
  simp only [List.length_append, hd, hmeta, section_length v _ hm, section_length v _ hp, putU16be, List.length_cons,
    List.length_nil]
  -- omega reads every hypothesis in the context
  clear hd hmeta
  omega

/-- the stage does not fault, keeps `stored + remaining = destination length`, and when it reports success it has stored exactly `L` bytes in all -/
def GoodL (n L : Nat) (r : Except Fault St) : Prop :=
  ∃ st, r = .ok st ∧ st.w.out.length + st.w.rem = n ∧ (∀ w, st = .go w → w.out.length = L)

theorem goodL_of_stores {s : W → Except Fault St} {bs : Bytes} (h : Stores s bs) (w : W) :
    GoodL (w.out.length + w.rem) (w.out.length + bs.length) (s w) := by
  by_cases hf : bs.length ≤ w.rem
  · refine ⟨_, h.fits w hf, stored_length w bs hf, fun _ e => ?_⟩
    cases e; exact List.length_append
  · obtain ⟨w', e, hw'⟩ := h.short w (Nat.lt_of_not_le hf)
    exact ⟨_, e, hw', fun _ e => by cases e⟩

/-- every stage of the saver keeps `stored + remaining = destination length` and never faults -/
theorem saveStages_good (f : WFile) (v : Nat) (mel per : List Bank) (hm : ∀ b ∈ mel, b.Shape) (hp : ∀ b ∈ per, b.Shape)
    (n : Nat) (w : W) (hw : w.out.length + w.rem = n) : Good n (saveStages f v mel per w) := by
  obtain ⟨st, e, h, -⟩ := goodL_of_stores (saveStages_stores f v mel per hm hp) w
  exact ⟨st, e, hw ▸ h⟩

/-- every run of the save stages that reports success has stored exactly `imageLen` bytes -/
theorem saveStages_len (f : WFile) (v : Nat) (mel per : List Bank) (hm : ∀ b ∈ mel, b.Shape) (hp : ∀ b ∈ per, b.Shape)
    (n : Nat) : GoodL n (imageLen v mel.length per.length) (saveStages f v mel per { out := [], rem := n }) := by
  have := goodL_of_stores (saveStages_stores f v mel per hm hp) { out := [], rem := n }
  rwa [image_len _ hm hp, List.length_nil, Nat.zero_add, Nat.zero_add] at this

/-- **WOPN_SaveBankToMem as a whole.**  Let `g` be the file it saves (the first bank of each kind only under force-GM) and
    `v'` the version it writes (the latest for version 0).  If the image of `g` fits in the destination the saver returns OK
    having stored exactly that image; if not it returns WOPN_ERR_UNEXPECTED_ENDING having stored no more than the destination
    holds.  It never faults. -/
theorem saveBank_spec (f : WFile) (hs : f.Shape) (n v : Nat) (gm : Bool) (g : WFile) (v' : Nat)
    (hg : g = { f with melodic := if gm then f.melodic.take 1 else f.melodic,
                       percussive := if gm then f.percussive.take 1 else f.percussive })
    (hv : v' = if v = 0 then Gen.wopnLatestVersion else v) :
    ((image g v').length ≤ n ∧ saveBank f n v gm = .ok ⟨Gen.wopnErrOk, image g v'⟩) ∨
    (n < (image g v').length ∧ ∃ out, saveBank f n v gm = .ok ⟨Gen.wopnErrUnexpectedEnding, out⟩ ∧ out.length ≤ n) := by
  have S := saveStages_stores f v' _ _ (gm_shape gm _ hs.mel_s) (gm_shape gm _ hs.per_s)
  rw [← hg] at S
  unfold saveBank
  by_cases h : (image g v').length ≤ n
  · simp only [← hv, S.fits { out := [], rem := n } h]
    exact .inl ⟨h, rfl⟩
  · obtain ⟨w', e, hw'⟩ := S.short { out := [], rem := n } (Nat.lt_of_not_le h)
    simp only [← hv, e]
    exact .inr ⟨Nat.lt_of_not_le h, _, rfl, Nat.le.intro (Nat.zero_add n ▸ hw')⟩

/-- **C15, no overrun**: for every destination length, format version and force-GM flag the saver never stores
    outside the destination (no `Fault`), and the bytes it did store fit. -/
theorem save_within (f : WFile) (hs : f.Shape) (n v : Nat) (gm : Bool) :
    ∃ r, saveBank f n v gm = .ok r ∧ r.out.length ≤ n := by
  rcases saveBank_spec f hs n v gm _ _ rfl rfl with ⟨h, e⟩ | ⟨-, out, e, h⟩ <;> exact ⟨_, e, h⟩

theorem andThen_go (w : W) (k : W → Except Fault St) : andThen (.ok (.go w)) k = k w := rfl

theorem image_length (f : WFile) (hs : f.Shape) (v : Nat) (hv : v = 1 ∨ v = 2) :
    (image f v).length = (if v > 1 then 13 else 11) + 5 + (if v ≥ 2 then 34 * f.melodic.length + 34 * f.percussive.length else 0) +
      f.melodic.length * 128 * (if v ≥ 2 then 69 else 65) + f.percussive.length * 128 * (if v ≥ 2 then 69 else 65) := by
  rw [image_len f hs.mel_s hs.per_s, imageLen, mul_128_mul f.melodic.length, mul_128_mul f.percussive.length]

/-- **C15, size calculator**: the reported size is enough (exact for version 2, two bytes generous for version 1) -/
theorem calc_ge_image (f : WFile) (hs : f.Shape) (v : Nat) (hv : v = 1 ∨ v = 2) :
    (image f v).length ≤ calcBankSize f v ∧ (v = 2 → (image f v).length = calcBankSize f v) := by
  rw [image_len f hs.mel_s hs.per_s]
  rcases hv with rfl | rfl <;> simp [imageLen, calcBankSize] <;> omega

theorem writeCounts_exact (f : WFile) (v nm np : Nat) (o : Bytes) (r : Nat) (hr : 5 ≤ r) :
    writeCounts f v nm np { out := o, rem := r } =
      .ok (.go { out := o ++ (putU16be nm ++ (putU16be np ++
        [(f.lfoFreq % 16) + (if v ≥ 2 then (f.chipType % 2) * 16 else 0)])), rem := r - 5 }) :=
  (writeCounts_stores f v nm np).fits { out := o, rem := r } hr

theorem writeSections_exact (f : WFile) (hs : f.Shape) (v : Nat) (sz : Nat) (hsz : sz = if v ≥ 2 then 69 else 65) (o : Bytes) (r : Nat)
    (hr : f.melodic.length * 128 * sz + f.percussive.length * 128 * sz ≤ r) :
    writeSections v f.melodic f.percussive { out := o, rem := r } =
      .ok (.go { out := o ++ ((allInsts f.melodic).flatMap (writeInst v true) ++ (allInsts f.percussive).flatMap (writeInst v true)),
                 rem := r - (f.melodic.length * 128 * sz + f.percussive.length * 128 * sz) }) := by
  subst hsz
  have S := (writeSections_stores v _ _ hs.mel_s hs.per_s).fits { out := o, rem := r }
  rw [List.length_append, section_length v _ hs.mel_s, section_length v _ hs.per_s,
    ← mul_128_mul f.melodic.length, ← mul_128_mul f.percussive.length] at S
  exact S hr

/-- **C15, saving succeeds**: with a destination of at least the image size the saver returns OK and has stored
    exactly `image f v` -/
theorem save_exact (f : WFile) (hs : f.Shape) (v : Nat) (hv : v = 1 ∨ v = 2) (n : Nat)
    (hn : (image f v).length ≤ n) : saveBank f n v false = .ok ⟨Gen.wopnErrOk, image f v⟩ := by
  rcases saveBank_spec f hs n v false f v rfl (if_neg (by omega)).symm with ⟨-, e⟩ | ⟨h, -⟩
  · exact e
  · omega

theorem save_exact_v2 (f : WFile) (hs : f.Shape) (n : Nat) (hn : (image f 2).length ≤ n) :
    saveBank f n 2 false = .ok ⟨Gen.wopnErrOk, image f 2⟩ :=
  save_exact f hs 2 (.inr rfl) n hn

theorem save_exact_v1 (f : WFile) (hs : f.Shape) (n : Nat) (hn : (image f 1).length ≤ n) :
    saveBank f n 1 false = .ok ⟨Gen.wopnErrOk, image f 1⟩ :=
  save_exact f hs 1 (.inl rfl) n hn

/-- **C15, too small a destination is reported**: whenever the destination is shorter than what a successful save stores, the saver
    returns WOPN_ERR_UNEXPECTED_ENDING (and, by `save_within`, has stored nothing outside the destination) -/
theorem save_too_small (f : WFile) (hs : f.Shape) (v : Nat) (hv : v = 1 ∨ v = 2) (n : Nat)
    (hn : n < imageLen v f.melodic.length f.percussive.length) :
    ∃ r, saveBank f n v false = .ok r ∧ r.code = Gen.wopnErrUnexpectedEnding ∧ r.out.length ≤ n := by
  rw [← image_len f hs.mel_s hs.per_s] at hn
  rcases saveBank_spec f hs n v false f v rfl (if_neg (by omega)).symm with ⟨h, -⟩ | ⟨-, out, e, h⟩
  · omega
  · exact ⟨_, e, rfl, h⟩

/-- `imageLen` is the length of the image (so "too small" means: smaller than the bytes `save_exact` stores) -/
theorem imageLen_eq (f : WFile) (hs : f.Shape) (v : Nat) (hv : v = 1 ∨ v = 2) :
    imageLen v f.melodic.length f.percussive.length = (image f v).length :=
  (image_len f hs.mel_s hs.per_s v).symm

/-- **C15, round trip (general form)**: saving into a buffer of the calculated size succeeds, stays within that size,
    and loading the result yields `canonFile v f` — for every value of the C struct types. -/
theorem roundtrip (f : WFile) (hs : f.Shape) (v : Nat) (hv : v = 1 ∨ v = 2) (n : Nat) (hn : calcBankSize f v ≤ n) :
    ∃ r, saveBank f n v false = .ok r ∧ r.code = Gen.wopnErrOk ∧ r.out.length ≤ calcBankSize f v ∧
      loadBank r.out = .ok (.ok (canonFile v f)) := by
  have hc := (calc_ge_image f hs v hv).1
  exact ⟨_, save_exact f hs v hv n (by omega), rfl, hc, List.append_nil (image f v) ▸ load_image f hs v hv []⟩

/-- explicit well-formedness of an instrument for format version 2: NUL-terminated zero-padded name, no velocity
    offset (the format does not carry it), flags ⊆ {blank}, blank ⇔ both delays zero -/
structure InstWF2 (i : Inst) : Prop where
  shape : i.Shape
  name_padded : strncpy 32 i.name = i.name
  name_term : i.name[31]? = some 0
  vel : i.velOffset = 0
  flags_delay : (i.flags = 2 ∧ i.delayOn = 0 ∧ i.delayOff = 0) ∨ (i.flags = 0 ∧ ¬ (i.delayOn = 0 ∧ i.delayOff = 0))

structure BankWF2 (b : Bank) : Prop where
  shape : b.Shape
  name_padded : strncpy 32 b.name ++ [0] = b.name
  ins_wf : ∀ i ∈ b.ins, InstWF2 i

structure FileWF2 (f : WFile) : Prop where
  shape : f.Shape
  version : f.version = 2
  lfo : f.lfoFreq < 16
  chip : f.chipType < 2
  vm : f.volumeModel = 0
  mel_wf : ∀ b ∈ f.melodic, BankWF2 b
  per_wf : ∀ b ∈ f.percussive, BankWF2 b

/-- the loader's clean-up of the name changes nothing in a well-formed one -/
theorem InstWF2.name_set {i : Inst} (h : InstWF2 i) : (strncpy 32 i.name).set 31 0 = i.name := by
  obtain ⟨hlt, e⟩ := List.getElem?_eq_some_iff.mp h.name_term
  rw [h.name_padded]
  exact e ▸ List.set_getElem_self hlt

theorem canonInst_wf2 (i : Inst) (h : InstWF2 i) : canonInst 2 true i = i := by
  obtain ⟨name, no, vel, key, flags, fbalg, lfo, ops, on, off⟩ := i
  have hn := h.name_set
  obtain ⟨-, -, -, rfl, ⟨rfl, rfl, rfl⟩ | ⟨rfl, hnd⟩⟩ := h
  · simp [canonInst, hn]
  · simpa [canonInst, hn] using hnd

theorem canonBank_wf2 (b : Bank) (h : BankWF2 b) : canonBank 2 b = b := by
  simp only [canonBank, if_pos (Nat.le_refl 2), h.name_padded, map_eq_self fun i hi => canonInst_wf2 i (h.ins_wf i hi)]

theorem canonFile_wf2 (f : WFile) (h : FileWF2 f) : canonFile 2 f = f := by
  obtain ⟨ver, lfo, chip, vm, mel, per⟩ := f
  obtain ⟨-, rfl, hl, hc, rfl, hmel, hper⟩ := h
  simp only [canonFile, if_pos (Nat.le_refl 2), Nat.mod_eq_of_lt hl, Nat.mod_eq_of_lt hc,
    map_eq_self fun b hb => canonBank_wf2 b (hmel b hb), map_eq_self fun b hb => canonBank_wf2 b (hper b hb)]

/-- **C15, version 2 round trip**: for every well-formed value, save into the calculated size, load: the same value. -/
theorem roundtrip_v2 (f : WFile) (h : FileWF2 f) (n : Nat) (hn : calcBankSize f 2 ≤ n) :
    ∃ r, saveBank f n 2 false = .ok r ∧ r.code = Gen.wopnErrOk ∧ r.out.length ≤ calcBankSize f 2 ∧
      loadBank r.out = .ok (.ok f) := by
  have := roundtrip f h.shape 2 (.inr rfl) n hn
  rwa [canonFile_wf2 f h] at this

def dropInst (i : Inst) : Inst := { i with delayOn := 0, delayOff := 0, flags := 0 }
def dropBank (b : Bank) : Bank := { name := zeros 33, lsb := 0, msb := 0, ins := b.ins.map dropInst }

/-- what format version 1 cannot carry: bank names and numbers, delays and blank flags, chip type -/
def dropV1 (f : WFile) : WFile :=
  { f with version := 1, chipType := 0, melodic := f.melodic.map dropBank, percussive := f.percussive.map dropBank }

theorem canonInst_wf1 (i : Inst) (h : InstWF2 i) : canonInst 1 true i = dropInst i := by
  simp [canonInst, dropInst, h.name_set, h.vel]

theorem canonBank_wf1 (b : Bank) (h : BankWF2 b) : canonBank 1 b = dropBank b := by
  simp only [canonBank, dropBank, if_neg (by decide : ¬ 1 ≥ 2), List.map_congr_left fun i hi => canonInst_wf1 i (h.ins_wf i hi)]

theorem canonFile_wf1 (f : WFile) (h : FileWF2 f) : canonFile 1 f = dropV1 f := by
  simp only [canonFile, dropV1, if_neg (by decide : ¬ 1 ≥ 2), Nat.mod_eq_of_lt h.lfo, h.vm,
    List.map_congr_left fun b hb => canonBank_wf1 b (h.mel_wf b hb),
    List.map_congr_left fun b hb => canonBank_wf1 b (h.per_wf b hb)]

/-- **C15, version 1 round trip**: exactly the fields of `dropV1` are lost. -/
theorem roundtrip_v1 (f : WFile) (h : FileWF2 f) (n : Nat) (hn : calcBankSize f 1 ≤ n) :
    ∃ r, saveBank f n 1 false = .ok r ∧ r.code = Gen.wopnErrOk ∧ r.out.length ≤ calcBankSize f 1 ∧
      loadBank r.out = .ok (.ok (dropV1 f)) := by
  have := roundtrip f h.shape 1 (.inl rfl) n hn
  rwa [canonFile_wf1 f h] at this

end Opn.C15
