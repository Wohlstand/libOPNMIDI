/-
  C17 — Container/converter front-ends preserve the music (RMI, GMF, MUS, XMI).
-/
import OpnVerif.Model.Seq
import OpnVerif.Model.Mus
import OpnVerif.Model.Xmi

namespace Opn.C17
open Opn Opn.Seq Opn.Xmi

/-- **RMI = bare SMF**: a RIFF/RMID container is loaded exactly as the SMF that starts behind its 20-byte header
    (for every byte string: same acceptance, same sequencer state). -/
theorem rmi_is_smf (s : Seq) (pre : Bytes) (smf : Bytes) (hp : pre.length = 20) (hm : pre.take 4 = magicRIFF)
    (hlen : 14 ≤ (pre ++ smf).length) (hnot : (pre ++ smf).take 8 ≠ magicMThd) :
    loadMidi s (pre ++ smf) = parseSMF s .midi smf := by
  have h4 : (pre ++ smf).take 4 = magicRIFF := by
    rw [List.take_append_of_le_length (by omega)]; exact hm
  have hd : (pre ++ smf).drop 20 = smf := by
    rw [← hp]; exact List.drop_left
  rw [loadMidi, if_neg (Nat.not_lt.mpr hlen), if_neg (mt beq_iff_eq.mp hnot), if_pos (beq_iff_eq.mpr h4), hd]

/-- MUS channel 15 is the percussion channel from the start; every other channel is unassigned -/
theorem mus_initial_map : (({} : Mus.St).map.getD 15 0 = 9) ∧ ∀ c, c < 15 → ({} : Mus.St).map.getD c 0 = -1 := by
  decide

/-- the controller table of the MUS converter has the 15 documented entries -/
theorem mus_controller_table : Mus.midimap.length = 15 ∧ Mus.midimap.getD 3 0 = 7 ∧ Mus.midimap.getD 4 0 = 10 ∧ Mus.midimap.getD 8 0 = 64 := by decide

/-! ## XMI: a note with a duration becomes a note-on and a note-off -/

theorem insertEv_go_eq (el : EL) (e : XEv) (fuel c : Nat) :
    ∃ k, (insertEv.go el e fuel c).l = el.l.take k ++ e :: el.l.drop k := by
  fun_induction insertEv.go el e fuel c with
  | case1 => exact ⟨el.l.length, by simp⟩
  | case2 => exact ⟨el.l.length, by simp⟩
  | case3 c => exact ⟨c + 1, by simp⟩
  | case4 _ _ _ _ _ ih => exact ih

theorem insertEv_eq (el : EL) (e : XEv) :
    ∃ k, (insertEv el e).l = el.l.take k ++ { e with time := if e.time < 0 then 0 else e.time } :: el.l.drop k := by
  fun_cases insertEv el e with
  | case1 h => exact ⟨0, by simp [h]⟩
  | case2 h => exact ⟨0, by simp [h]⟩
  | case3 h => rw [if_neg h]; exact insertEv_go_eq el e _ _

/-- inserting an event adds exactly one event to the list -/
theorem insertEv_length (el : EL) (e : XEv) : (insertEv el e).l.length = el.l.length + 1 := by
  obtain ⟨k, h⟩ := insertEv_eq el e
  rw [h, List.perm_middle.length_eq, List.length_cons, List.take_append_drop]

/-- the inserted event is in the list (with a negative time clamped to 0) -/
theorem insertEv_mem (el : EL) (e : XEv) : { e with time := if e.time < 0 then 0 else e.time } ∈ (insertEv el e).l := by
  obtain ⟨k, h⟩ := insertEv_eq el e
  rw [h]
  exact List.mem_append_right _ (List.mem_cons_self ..)

/-- nothing is lost by an insertion -/
theorem insertEv_subset (el : EL) (e x : XEv) (hx : x ∈ el.l) : x ∈ (insertEv el e).l := by
  obtain ⟨k, h⟩ := insertEv_eq el e
  rw [← List.take_append_drop k el.l] at hx
  rw [h]
  exact List.mem_append.mpr ((List.mem_append.mp hx).imp_right (List.mem_cons_of_mem _))

/-- **XMI note durations become note-offs**: converting a note event (status 9n, a key, a velocity, a duration) at
    time `t ≥ 0` leaves in the list a note-on `(9n, key, velocity)` at `t` and a note-off in the MIDI spelling
    `(9n, key, 0)` at `t + 3·duration` (32-bit), whatever the list held before -/
theorem note_gets_noteoff (l : EL) (s : Src) (t : Int) (status : Nat) (ht : 0 ≤ t)
    (hs : ¬ (status / 16 == 0xB)) :
    let key := (read1 s).1
    let vel := (read1 (read1 s).2).1
    let dur := (getVLQ (read1 (read1 s).2).2).1
    ({ time := t, status := status, d0 := key, d1 := vel } : XEv) ∈ (convertEvent l s t status 3).1.l ∧
    ∃ off ∈ (convertEvent l s t status 3).1.l, off.status = status ∧ off.d0 = key ∧ off.d1 = 0 ∧
      (0 ≤ toI32 (t + (dur * 3 % 4294967296 : Nat)) → off.time = toI32 (t + (dur * 3 % 4294967296 : Nat))) := by
  intro key vel dur
  simp only [convertEvent, eq_false_of_ne_true hs, Bool.false_and, Bool.false_eq_true, if_false, Nat.reduceBEq]
  constructor
  · apply insertEv_subset
    have := insertEv_mem l { time := t, status := status, d0 := key, d1 := vel }
    rwa [if_neg (Int.not_lt.mpr ht)] at this
  · refine ⟨_, insertEv_mem _ _, rfl, rfl, rfl, fun h => ?_⟩
    exact if_neg (Int.not_lt.mpr h)


/-! ## the times both converters write are read back by the sequencer's parser

A variable-length quantity is the base-128 groups of a number, most significant first, every group but the last with bit 7
set. The reader keeps what it has read as a number: when the groups above the lowest of `m` are in, it holds `m / 128`, and the
lowest group makes that `m` (`rv_group`). Each writer's loop puts the groups of `v / 128` in front of the bytes it has already, so
reading its output takes the reader from 0 to `v / 128` before those bytes (`writeVarLen_go_read`, `putVLQ_build_read`); the last
byte, `v % 128` without the bit, completes `v` (`rv_final`). `W` is the reader's 64-bit word. -/

theorem rv_cont (g acc : Nat) (rest : Bytes) (hg : g < 128) :
    readVarLen ((g + 128) :: rest) acc = readVarLen rest ((acc * 128 + g) % W) := by
  simp only [readVarLen, Nat.add_mod_right, Nat.mod_eq_of_lt hg, ge_iff_le, Nat.le_add_left, if_true]

theorem rv_last (g acc : Nat) (rest : Bytes) (hg : g < 128) :
    readVarLen (g :: rest) acc = (some ((acc * 128 + g) % W), rest) := by
  simp only [readVarLen, Nat.mod_eq_of_lt hg, ge_iff_le, Nat.not_le.mpr hg, if_false]

theorem rv_group (m : Nat) (hm : m < W) (rest : Bytes) :
    readVarLen ((m % 128 + 128) :: rest) (m / 128) = readVarLen rest m := by
  rw [rv_cont _ _ _ (Nat.mod_lt _ (by decide)), Nat.div_add_mod' m 128, Nat.mod_eq_of_lt hm]

theorem rv_final (n : Nat) (hn : n < W) (rest : Bytes) :
    readVarLen (n % 128 :: rest) (n / 128) = (some n, rest) := by
  rw [rv_last _ _ _ (Nat.mod_lt _ (by decide)), Nat.div_add_mod' n 128, Nat.mod_eq_of_lt hn]

theorem div128_lt {m k : Nat} (h : m < 128 ^ (k + 1)) : m / 128 < 128 ^ k :=
  Nat.div_lt_of_lt_mul (by rwa [Nat.mul_comm, ← Nat.pow_succ])

/-- `f` rounds of the loop are enough for `f` groups above the lowest -/
theorem writeVarLen_go_read (rest : Bytes) (f v : Nat) (acc : Bytes) (hW : v < W) (hv : v / 128 < 128 ^ f) :
    readVarLen (Mus.writeVarLen.go f v acc ++ rest) 0 = readVarLen (acc ++ rest) (v / 128) := by
  fun_induction Mus.writeVarLen.go f v acc with
  | case1 => rw [Nat.lt_one_iff.mp hv]
  | case2 v acc f _ ih =>
    have hW' : v / 128 < W := Nat.lt_of_le_of_lt (Nat.div_le_self ..) hW
    rw [ih hW' (div128_lt hv), List.cons_append, rv_group _ hW']
  | case3 _ _ _ h => rw [Nat.eq_zero_of_not_pos h]

/-- **C17: every delay the MUS converter can write (it refuses more than 28 bits) is read back exactly by the sequencer's parser** -/
theorem mus_writeVarLen_readVarLen (v : Nat) (h : v < 268435456) (rest : Bytes) :
    readVarLen (Mus.writeVarLen v ++ rest) 0 = (some v, rest) := by
  have hW : v < W := Nat.lt_trans h (by decide)
  rw [Mus.writeVarLen, writeVarLen_go_read rest 5 v _ hW (div128_lt (Nat.lt_trans h (by decide)))]
  exact rv_final v hW rest

/-! ### XMI: the groups go through a 32-bit accumulator, a byte each, and are written out of it low byte first -/

theorem or80 (x : Nat) (h : x < 128) : x ||| 0x80 = x + 128 := by
  rw [Nat.or_comm, Nat.add_comm]
  exact (Nat.two_pow_add_eq_or_of_lt (i := 7) h 1).symm

theorem shl_or (a b : Nat) (h : b < 256) : (a * 256) ||| b = a * 256 + b := by
  rw [Nat.mul_comm]
  exact (Nat.two_pow_add_eq_or_of_lt (i := 8) h a).symm

theorem mod_id (x m : Nat) (h : x < m) : x % m = x := Nat.mod_eq_of_lt h

/-- one step of the converter's accumulator: shift the 32-bit buffer by a byte and add the next group with its continuation bit -/
theorem pack_step (buf g : Nat) (hb : buf < 16777216) (hg : g < 128) :
    (buf * 256 % 4294967296) ||| (g ||| 0x80) = buf * 256 + (g + 128) := by
  rw [or80 g hg, mod_id _ _ (Nat.mul_lt_mul_of_pos_right hb (by decide)), shl_or _ _ (Nat.add_lt_add_right hg 128)]

/-- the low `i` bytes of the accumulator `buf`, lowest first: what `putVLQ` writes when its loop has returned `(buf, i)` -/
def unpack (p : Nat × Nat) : Bytes := (List.range p.2).map fun j => p.1 / 256 ^ j % 256

theorem unpack_push (buf x i : Nat) (hx : x < 256) : unpack (buf * 256 + x, i + 1) = x :: unpack (buf, i) := by
  have hdiv (j : Nat) : (buf * 256 + x) / 256 ^ (j + 1) = buf / 256 ^ j := by
    rw [Nat.pow_succ', ← Nat.div_div_eq_div_mul, Nat.add_comm, Nat.add_mul_div_right _ _ (by decide), Nat.div_eq_of_lt hx,
      Nat.zero_add]
  simp [unpack, List.range_succ_eq_map, Function.comp_def, hdiv, Nat.mul_add_mod_of_lt hx]

/-- `k` bounds the groups still to come: the accumulator holds `i` bytes and has room for four, which is why a fifth group is lost -/
theorem putVLQ_build_read (rest : Bytes) (f v buf i k : Nat) (hf : k ≤ f) (hi : i + k ≤ 4) (hb : buf < 256 ^ i) (hW : v < W)
    (hv : v / 128 < 128 ^ k) :
    readVarLen (unpack (putVLQ.build f v buf i) ++ rest) 0 = readVarLen (unpack (buf, i) ++ rest) (v / 128) := by
  fun_induction putVLQ.build f v buf i generalizing k with
  | case1 =>
    obtain rfl := Nat.le_zero.mp hf
    rw [Nat.lt_one_iff.mp hv]
  | case2 v buf i f v' h => rw [show v / 128 = 0 from beq_iff_eq.mp h]
  | case3 v buf i f v' h ih =>
    cases k with
    | zero => exact absurd (beq_iff_eq.mpr (Nat.lt_one_iff.mp hv)) h
    | succ k =>
      have hW' : v' < W := Nat.lt_of_le_of_lt (Nat.div_le_self ..) hW
      have hg : v' % 128 < 128 := Nat.mod_lt _ (by decide)
      have hb3 : buf < 256 ^ 3 := Nat.lt_of_lt_of_le hb (Nat.pow_le_pow_right (by decide) (by omega))
      have hb' : buf * 256 + (v' % 128 + 128) < 256 ^ (i + 1) := by rw [Nat.pow_succ]; omega
      rw [pack_step buf _ hb3 hg] at ih ⊢
      rw [ih k (Nat.le_of_succ_le_succ hf) (by omega) hb' hW' (div128_lt hv), unpack_push _ _ _ (Nat.add_lt_add_right hg 128),
        List.cons_append, rv_group _ hW']

/-- **C17: every delta time below 2^28 that the XMI converter writes (`xmi2mid_PutVLQ`) is read back exactly by the sequencer's
    `readVarLenEx`, and the parser continues right behind it** — the two halves of the conversion agree on the time axis.
    (2^28 is the range of a four-byte quantity; the converter's 32-bit accumulator cannot hold a fifth byte.) -/
theorem putVLQ_readVarLen (n : Nat) (h : n < 268435456) (rest : Bytes) : readVarLen (putVLQ n ++ rest) 0 = (some n, rest) := by
  have hW : n < W := Nat.lt_trans h (by decide)
  have hg : n % 128 < 256 := Nat.lt_trans (Nat.mod_lt _ (by decide)) (by decide)
  show readVarLen (unpack (putVLQ.build 6 (n % 4294967296) (n % 128) 1) ++ rest) 0 = _
  rw [mod_id n _ (Nat.lt_trans h (by decide)), putVLQ_build_read rest 6 n _ 1 3 (by decide) (by decide) hg hW (div128_lt h),
    show unpack (n % 128, 1) = [n % 128] by simp [unpack, mod_id _ 256 hg]]
  exact rv_final n hW rest

/-- the bound is needed: 2^28 + 1 takes five bytes and the 32-bit accumulator loses the last one -/
theorem putVLQ_limit : (readVarLen (putVLQ 268435457) 0).1 ≠ some 268435457 := by decide +kernel

end Opn.C17
