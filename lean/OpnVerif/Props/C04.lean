/-
  C04 — Voice-allocation bookkeeping stays consistent after every call.

  Full statement: `Inv (run init ops)` for every operation sequence, with `Inv` = `invB` of Spec/Inv.lean (I1…I6).
  Proved here (`…_partial`): the invariant holds initially, and the pure list operations every bookkeeping step of the
  model is built from (user lists: find-or-create, mark, erase; note lists: create, clean-up-and-erase) preserve the
  clauses they can affect (I3, I4).  The composition of these steps through the monadic loops of noteUpdate,
  killSustainingNotes, prepareChipChannelForNewNote etc. is NOT yet a theorem: for whole calls the invariant is
  evaluated by the model driver after every operation (any violation is printed and breaks the correspondence) and by
  the Python monitor on the implementation's snapshots.
-/
import OpnVerif.Spec.Inv
import OpnVerif.Props.C05
import OpnVerif.Lemmas.List

namespace Opn.C04
open Opn Opn.Synth

/-- the invariant of C04 as a proposition -/
def Inv (s : S) : Prop := invB s = true

/-- the full statement (not yet proved for composite calls; see the header) -/
def C04_full (run : List String → S) : Prop := ∀ ops, Inv (run ops)

theorem inv_init_partial : Inv Synth.init := by unfold Inv; decide +kernel

/-! ## user lists (I3: a location appears at most once per chip channel) -/

def locs (cc : ChipCh) : List (Nat × Nat) := cc.users.map fun u => (u.midCh, u.key)

theorem mem_locs_iff_any (cc : ChipCh) (m k : Nat) : (m, k) ∈ locs cc ↔ cc.users.any (·.isLoc m k) = true := by
  simp only [locs, List.mem_map, List.any_eq_true, User.isLoc_iff, Prod.mk.injEq]

/-- find_or_create_user never introduces a duplicate location -/
theorem findOrCreateUser_nodup_partial (cc : ChipCh) (m k : Nat) (h : (locs cc).Nodup) :
    (locs (findOrCreateUser cc m k).1).Nodup := by
  fun_cases findOrCreateUser cc m k
  · exact h
  · rename_i habs _
    show (List.map _ (cc.users ++ [newUser m k])).Nodup
    rw [List.map_append]
    exact nodup_snoc (a := (m, k)) h fun hm => habs ((mem_locs_iff_any cc m k).1 hm)
  · exact h

/-- marking / unmarking users (pedal, sostenuto, timers) keeps the locations, hence their uniqueness -/
theorem modUser_nodup_partial (cc : ChipCh) (m k : Nat) (f : User → User) (hf : ∀ u, (f u).midCh = u.midCh ∧ (f u).key = u.key)
    (h : (locs cc).Nodup) : (locs (modUser cc m k f)).Nodup := by
  unfold locs; rw [C05.modUser_locs cc m k f hf]; exact h

/-- erasing a user keeps uniqueness and removes exactly that location -/
theorem eraseUser_nodup_partial (cc : ChipCh) (m k : Nat) (h : (locs cc).Nodup) :
    (locs (eraseUser cc m k)).Nodup ∧ (m, k) ∉ locs (eraseUser cc m k) := by
  refine ⟨List.Nodup.sublist (List.Sublist.map _ List.filter_sublist) h, fun hmem => ?_⟩
  obtain ⟨u, hu, e⟩ := List.mem_map.1 hmem
  exact ((C05.eraseUser_spec cc m k u).1 hu).2 (Prod.mk.inj e)

/-- ageing (addAge) keeps the locations -/
theorem addAge_locs_partial (cc : ChipCh) (us : Int) : locs (addAge cc us) = locs cc := by
  unfold addAge
  cases cc.users.isEmpty
  · exact map_keeps_locs _ (fun _ => by exact ⟨rfl, rfl⟩) cc.users
  · rfl

/-! ## note lists (I3: a key appears at most once per MIDI channel; I4: the two counters) -/

def countersOk (m : MidiCh) : Prop :=
  m.glidingCount = (m.notes.filter (·.gliding)).length ∧ m.extCount = (m.notes.filter (fun n => decide (n.ttl > 0))).length

/-- the filtered list is the original list without exactly the note found under `key` -/
theorem filter_without (n : Note) (key : Nat) (p : Note → Bool) : ∀ (l : List Note), (l.map (·.key)).Nodup →
    l.find? (·.key == key) = some n →
    ((l.filter (fun x => !(x.key == key))).filter p).length + (if p n then 1 else 0) = (l.filter p).length := by
  intro l hnd hf
  -- keys being unique, `n` is the only note under `key`: the filter drops `n` and nothing else
  have hk : n.key = key := beq_iff_eq.1 (List.find?_some hf :)
  obtain ⟨as, bs, rfl, -, e⟩ := split_at_key hnd (List.mem_of_find?_eq_some hf) hk
  rw [e]
  simp only [← List.countP_eq_length_filter, List.countP_append, List.countP_cons]
  omega

theorem dec_if_counted {c : Prop} [Decidable c] {rest total : Nat} (g : rest + (if c then 1 else 0) = total) :
    (if c then total - 1 else total) = rest := by
  by_cases hc : c
  · rw [if_pos hc] at g ⊢; exact Nat.sub_eq_of_eq_add g.symm
  · rw [if_neg hc] at g ⊢; exact g.symm

/-- removing a note the way cleanupNote + erase do it keeps both counters exact -/
theorem cleanup_erase_counters_partial (m : MidiCh) (key : Nat) (n : Note) (hk : (m.notes.map (·.key)).Nodup)
    (hn : findNote m key = some n) (hc : countersOk m) :
    (if n.gliding then m.glidingCount - 1 else m.glidingCount) =
        ((m.notes.filter (fun x => !(x.key == key))).filter (·.gliding)).length ∧
    (if n.ttl > 0 then m.extCount - 1 else m.extCount) =
        ((m.notes.filter (fun x => !(x.key == key))).filter (fun x => decide (x.ttl > 0))).length := by
  have t := filter_without n key (fun x => decide (x.ttl > 0)) m.notes hk hn
  simp only [decide_eq_true_eq] at t
  rw [hc.1, hc.2]
  exact ⟨dec_if_counted (filter_without n key (·.gliding) m.notes hk hn), dec_if_counted t⟩

/-- removing a note keeps key uniqueness -/
theorem erase_note_nodup_partial (m : MidiCh) (key : Nat) (hk : (m.notes.map (·.key)).Nodup) :
    ((m.notes.filter (fun x => !(x.key == key))).map (·.key)).Nodup :=
  List.Nodup.sublist (List.Sublist.map _ List.filter_sublist) hk

/-- appending a note with a fresh key (find_or_create_activenote, "create" case) keeps key uniqueness and the counters
    when they are bumped as realTime_NoteOn does -/
theorem create_note_partial (m : MidiCh) (ni : Note) (hk : (m.notes.map (·.key)).Nodup) (habs : findNote m ni.key = none)
    (hc : countersOk m) :
    ((m.notes ++ [ni]).map (·.key)).Nodup ∧
    m.glidingCount + (if ni.gliding then 1 else 0) = ((m.notes ++ [ni]).filter (·.gliding)).length ∧
    m.extCount + (if ni.ttl > 0 then 1 else 0) = ((m.notes ++ [ni]).filter (fun x => decide (x.ttl > 0))).length := by
  refine ⟨?_, ?_⟩
  · rw [List.map_append]
    refine nodup_snoc hk fun hm => ?_
    obtain ⟨x, hx, hxe⟩ := List.mem_map.1 hm
    exact List.find?_eq_none.1 habs x hx (beq_iff_eq.2 hxe)
  · rw [hc.1, hc.2]
    simp only [← List.countP_eq_length_filter, List.countP_append, List.countP_singleton, decide_eq_true_eq, and_self]


/-! ## the decision steps of noteUpdate / killSustainingNotes / markSostenutoNotes keep I3

(these are the pure functions the executable model calls for the note-off of one voice, the release of pedals and the sostenuto mark) -/

/-- the note-off of one voice keeps the user locations of its chip channel unique, with or without the pedal -/
theorem offVoice_nodup_partial (sustain : Bool) (cc : ChipCh) (m k : Nat) (h : (locs cc).Nodup) :
    (locs (offVoice sustain cc m k).1).Nodup := by
  fun_cases offVoice sustain cc m k
  · show (locs (if _ then eraseUser cc m k else cc)).Nodup
    split
    · exact (eraseUser_nodup_partial cc m k h).1
    · exact h
  · have h1 := findOrCreateUser_nodup_partial cc m k h
    split
    · exact modUser_nodup_partial _ m k _ (fun u => ⟨rfl, rfl⟩) h1
    · exact h1

/-- when the note-off reports the channel silent, it has no user left -/
theorem offVoice_silent_empty_partial (sustain : Bool) (cc : ChipCh) (m k : Nat) (h : (offVoice sustain cc m k).2 = true) :
    (offVoice sustain cc m k).1.users = [] := by
  revert h
  fun_cases offVoice sustain cc m k
  · exact fun h => List.isEmpty_iff.1 (Bool.and_eq_true_iff.1 h).2
  · exact Bool.noConfusion

/-- pressing sostenuto changes no location -/
theorem markSost_locs_partial (m : Nat) (cc : ChipCh) : locs (markSost m cc) = locs cc :=
  map_keeps_locs _ (fun u => by split <;> exact ⟨rfl, rfl⟩) cc.users


/-- **the note-on guard is exactly the condition under which the user can be listed**: find_or_create_user fails iff the list is
    full (128) and the location absent — which is what realTime_NoteOn tests before it lets the note refer to the chip channel
    (an accepted note is therefore always listed by its chip channel: I1 at the moment of creation) -/
theorem findOrCreateUser_fails_iff (cc : ChipCh) (m k : Nat) :
    (findOrCreateUser cc m k).2 = false ↔ (cc.users.length = 128 ∧ cc.users.any (·.isLoc m k) = false) := by
  fun_cases findOrCreateUser cc m k
  · rename_i hp; simp [hp]
  · rename_i hl; simp [bne_iff_ne.1 hl]
  · rename_i ha hl; simpa [ha] using hl

/-- … and when it succeeds the location is listed afterwards -/
theorem findOrCreateUser_lists_partial (cc : ChipCh) (m k : Nat) (h : (findOrCreateUser cc m k).2 = true) :
    (findOrCreateUser cc m k).1.users.any (·.isLoc m k) = true :=
  (C05.findOrCreateUser_spec cc m k).1 h

end Opn.C04
