/-
  C12 — Bank select + program change pick the documented instrument, with fallbacks.
-/
import OpnVerif.Spec.Resolve

namespace Opn.C12
open Opn Opn.Synth

/-- all banks hold 128 instruments (true of every map built by the bank API and the bank loader) -/
def Banks128 (banks : BankMap.BMap (List Ins)) : Prop := ∀ k b, BankMap.bfind banks k = some b → b.length = 128

theorem address_eq (mode channel : Nat) (ch : MidiCh) (note : Nat) :
    addressOf mode channel ch note =
      (bankKey (specAddress mode channel ch note) (specAddress mode channel ch note).bankNo,
       (specAddress mode channel ch note).entry, (specAddress mode channel ch note).perc) := by
  fun_cases specAddress mode channel ch note <;> rename_i b h
  · simp only [addressOf, h, bankKey, if_true]
    cases hx : (mode / 2 % 2 == 1) <;> simp [b, hx]
  · simp only [addressOf, h, bankKey, if_false, Bool.false_eq_true, Nat.add_zero]
    -- bank 0 needs no case of its own: 0 * 256 + 0 = 0
    by_cases hz : (ch.bankMsb != 0 || ch.bankLsb != 0) = true
    · cases hg : (mode % 2 == 1) <;> simp [b, hg, hz]
    · have ⟨h1, h2⟩ : ch.bankMsb = 0 ∧ ch.bankLsb = 0 := by simpa using hz
      simp [h1, h2]

/-- a bank lookup with an in-range index does not fault -/
theorem look_ok (banks : BankMap.BMap (List Ins)) (h : Banks128 banks) (k idx : Nat) (hi : idx < 128) :
    look banks k idx = ((BankMap.bfind banks k).bind (·[idx]?)).map .ok := by
  unfold look bankIns
  cases hb : BankMap.bfind banks k with
  | none => rfl
  | some b =>
    have hl := h k b hb
    simp only [Option.bind_some]
    rw [List.getElem?_eq_getElem (by omega)]
    rfl

theorem soundingEntry_sounding (banks : BankMap.BMap (List Ins)) (k idx : Nat) (i : Ins)
    (h : soundingEntry banks k idx = some i) : flagNoSound i = false := by
  unfold soundingEntry at h
  rw [Option.filter_eq_some_iff] at h
  simpa using h.2

/-- "cur is the first sounding entry among the banks tried so far, or silent when there is none" -/
def Chain (banks : BankMap.BMap (List Ins)) (idx : Nat) (cur : Ins) (ks : List Nat) : Prop :=
  match ks.findSome? (fun k => soundingEntry banks k idx) with
  | some i => cur = i
  | none => flagNoSound cur = true

theorem chain_nil (banks : BankMap.BMap (List Ins)) (idx : Nat) : Chain banks idx Ins.empty [] :=
  (by decide : flagNoSound Ins.empty = true)

/-- one fallback step extends the chain -/
theorem chain_step (banks : BankMap.BMap (List Ins)) (h : Banks128 banks) (idx : Nat) (hi : idx < 128) (cur : Ins) (ks : List Nat) (k : Nat)
    (hc : Chain banks idx cur ks) : ∃ r, tryBank banks cur k idx = .ok r ∧ Chain banks idx r (ks ++ [k]) := by
  unfold Chain at hc ⊢
  rw [List.findSome?_append]
  unfold tryBank
  cases hf : ks.findSome? (fun k => soundingEntry banks k idx) with
  | some i =>
    -- an entry found earlier sounds, so the step keeps it
    rw [hf] at hc
    obtain ⟨k0, _, hk0⟩ := List.exists_of_findSome?_eq_some hf
    subst hc
    rw [soundingEntry_sounding banks k0 idx cur hk0]
    exact ⟨cur, rfl, rfl⟩
  | none =>
    rw [hf] at hc
    simp only [hc, if_true, Option.none_or, List.findSome?_cons, List.findSome?_nil, look_ok banks h k idx hi]
    cases hb : (BankMap.bfind banks k).bind (·[idx]?) with
    | none =>
      refine ⟨cur, rfl, ?_⟩
      simp only [soundingEntry, hb, Option.filter_none]; exact hc
    | some i =>
      refine ⟨i, rfl, ?_⟩
      simp only [soundingEntry, hb, Option.filter_some]
      by_cases hs : flagNoSound i = true <;> simp [hs]

/-- trying a bank again changes nothing -/
theorem chain_dup (banks : BankMap.BMap (List Ins)) (idx : Nat) (cur : Ins) (ks : List Nat) (k : Nat) (hk : k ∈ ks)
    (hc : Chain banks idx cur ks) : Chain banks idx cur (ks ++ [k]) := by
  unfold Chain at hc ⊢
  rw [List.findSome?_append]
  cases hf : ks.findSome? (fun k => soundingEntry banks k idx) with
  | some i => rw [hf] at hc; simpa using hc
  | none =>
    rw [hf] at hc
    have := List.findSome?_eq_none_iff.mp hf k hk
    simp [this]; exact hc

/-! a bank key is the bank number, below the percussion tag bit, plus the tag -/

theorem bankKey_mod {a : Address} {b : Nat} (hb : b < percussionTag) : bankKey a b % percussionTag = b := by
  unfold bankKey; split <;> simp [Nat.mod_eq_of_lt hb]

theorem bankKey_div {a : Address} {b : Nat} (hb : b < percussionTag) :
    bankKey a b / percussionTag % 2 * percussionTag = bankKey a 0 := by
  unfold bankKey; split <;> simp [Nat.div_eq_of_lt hb, Nat.add_div_right b (by decide : 0 < percussionTag)]

theorem bankKey_zero_round (a : Address) : bankKey a 0 / 128 * 128 = bankKey a 0 := by
  unfold bankKey; split <;> rfl

/-- the three lookups of realTime_NoteOn, in terms of the keys of an address -/
theorem resolveIns_chain {banks} (h : Banks128 banks) (a : Address) (hi : a.entry < 128) (hb : a.bankNo < percussionTag) :
    ∃ r, resolveIns banks (bankKey a a.bankNo) a.entry = .ok r ∧
      Chain banks a.entry r [bankKey a a.bankNo, bankKey a a.bankNo / 128 * 128, bankKey a 0] := by
  unfold resolveIns
  rw [bankKey_div hb, bankKey_mod hb]
  obtain ⟨r1, e1, c1⟩ := chain_step banks h a.entry hi Ins.empty [] (bankKey a a.bankNo) (chain_nil banks a.entry)
  by_cases h0 : a.bankNo = 0
  · -- bank 0: the three keys are the same one, looked up once, in the last place
    rw [h0] at e1 c1 ⊢
    rw [if_neg (Nat.lt_irrefl 0)]
    dsimp only
    rw [bankKey_zero_round, if_neg (by simp)]
    exact ⟨r1, e1, chain_dup banks a.entry r1 _ _ (by simp) (chain_dup banks a.entry r1 _ _ (by simp) c1)⟩
  · rw [if_pos (Nat.pos_of_ne_zero h0), e1]
    dsimp only
    generalize bankKey a a.bankNo = k at c1 ⊢
    by_cases hk : k / 128 * 128 = k
    · rw [if_neg (by simp [hk])]
      exact chain_step banks h a.entry hi r1 _ _ (chain_dup banks a.entry r1 _ _ (by simp [hk]) c1)
    · rw [if_pos (by simp [hk])]
      obtain ⟨r2, e2, c2⟩ := chain_step banks h a.entry hi r1 _ (k / 128 * 128) c1
      rw [e2]
      exact chain_step banks h a.entry hi r2 _ _ c2

/-- **C12: the instrument a note-on uses is the documented one** — the exact (bank, program/key) entry when it exists
    and is not blank, otherwise the same entry of the bank with the LSB cleared, otherwise of bank 0; when all three
    are missing or blank the selected instrument is blank (the note is rejected).  Hypotheses: 7-bit program, key and
    bank-select MSB (valid MIDI data bytes; an MSB of 128 or more would reach the percussion tag bit). -/
theorem resolve_eq_spec (banks : BankMap.BMap (List Ins)) (h : Banks128 banks) (mode channel : Nat) (ch : MidiCh) (note : Nat)
    (hp : ch.patch < 128) (hn : note < 128) (hm : ch.bankMsb < 128) (hl : ch.bankLsb < 256) :
    ∃ r, resolve banks mode channel ch note = .ok r ∧ r.isPerc = (specAddress mode channel ch note).perc ∧
      (match specResolve banks (specAddress mode channel ch note) with
       | some i => r.ins = i
       | none => flagNoSound r.ins = true) := by
  obtain ⟨hidx, hno⟩ : (specAddress mode channel ch note).entry < 128 ∧
      (specAddress mode channel ch note).bankNo < percussionTag := by
    unfold percussionTag
    fun_cases specAddress mode channel ch note
    · exact ⟨hn, by dsimp only; split <;> omega⟩
    · exact ⟨hp, by dsimp only; split <;> omega⟩
  unfold resolve
  rw [address_eq]
  generalize specAddress mode channel ch note = a at hidx hno ⊢
  obtain ⟨a3, e3, ch3⟩ := resolveIns_chain h a hidx hno
  rw [e3]
  dsimp only
  split <;> exact ⟨_, rfl, rfl, ch3⟩

end Opn.C12
