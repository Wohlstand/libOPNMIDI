/-
  C02 — Untrusted bank data is rejected or loaded safely (loader part; the "accepted banks are playable" part
  rests on the termination of the pitch search, proved at the end of this file, and on C03/C04's invariants).
-/
import OpnVerif.Lemmas.Wopn
import OpnVerif.Props.C10

namespace Opn.C02
open Opn Opn.Wopn

/-- the bank loader answers on every byte string: a file, or one of three error codes -/
theorem loadBank_cases (b : Bytes) :
    (∃ f, loadBank b = .ok (.ok f)) ∨
    ∃ c, loadBank b = .ok (.err c) ∧
      (c = Gen.wopnErrUnexpectedEnding ∨ c = Gen.wopnErrBadMagic ∨ c = Gen.wopnErrNewerVersion) := by
  unfold loadBank
  obtain ⟨⟨v, cur⟩, hr⟩ | ⟨c, hr, hc⟩ := readVersion_cases Gen.wopnMagic1 Gen.wopnMagic2 b <;> rw [hr]
  · obtain h | h := loadBankBody_cases v cur
    · exact .inl h
    · exact .inr ⟨_, h, .inl rfl⟩
  · exact .inr ⟨c, rfl, hc⟩

/-- **C02, bank loader stays inside the block**: for every byte string (any length, any content) every read of the
    model of WOPN_LoadBankFromMem is in bounds (no `Fault`) and the result is a value or a defined error code. -/
theorem loadBank_total (b : Bytes) : ∃ r, loadBank b = .ok r := by
  obtain ⟨f, h⟩ | ⟨c, h, -⟩ := loadBank_cases b <;> exact ⟨_, h⟩

theorem loadBank_errors (b : Bytes) (c : Nat) (h : loadBank b = .ok (.err c)) :
    c = Gen.wopnErrUnexpectedEnding ∨ c = Gen.wopnErrBadMagic ∨ c = Gen.wopnErrNewerVersion := by
  obtain ⟨f, h'⟩ | ⟨c', h', hc⟩ := loadBank_cases b <;> rw [h'] at h
  · cases h
  · cases h; exact hc

/-- **C02, instrument loader stays inside the block** -/
theorem loadInst_total (b : Bytes) : ∃ r, loadInst b = .ok r := by
  fun_cases loadInst b
  case case1 hx =>
    obtain ⟨_, h⟩ | ⟨_, h, -⟩ := readVersion_cases Gen.opniMagic1 Gen.opniMagic2 b <;> exact absurd hx (not_error ⟨_, h⟩)
  case case5 h _ hx _ _ => rw [rd_ok _ _ _ (Nat.le_of_not_lt h)] at hx; cases hx
  case case6 h _ _ hr _ hx _ _ =>
    rw [rd_ok _ _ _ (Nat.le_of_not_lt h)] at hr
    cases hr
    exact absurd hx (not_error (parseInst_ok _ false _ (by rw [List.length_take]; simp; omega)))
  case case8 h hno =>
    obtain ⟨drum, cur, rfl, -⟩ := hasPrefix 1 0 _ (Nat.le_of_not_lt h)
    exact (hno _ _ rfl).elim
  all_goals exact ⟨_, rfl⟩

/-! ## accepted banks are playable: the note-on frequency search terminates

`OPN2::noteOn` returns for `hertz < 0` and clamps `hertz > 131071` (also +∞) to 131071 (fixes e79c9cc, 143739b), then
runs two loops on `hertz`.  Whatever instrument fields an accepted bank or `opn2_setInstrument` supplied
(all 2^16 note offsets, any drum key), the value reaching the loops is a finite double, i.e. a dyadic rational. -/

/-- **C02, no hang at note-on**: for every frequency the guard lets through (any dyadic value up to 131071 Hz —
    in fact for every finite double) the octave/multiplier search of the model of `OPN2::noteOn` terminates with a
    result: the fuel of the multiplier loop (1100) is never exhausted. -/
theorem noteon_search_terminates (h : Pitch.Dy) (hguard : h.n ≤ 131071 * 2 ^ h.k) : ∃ r, Pitch.search h = .ok r := by
  apply C10.search_total
  have h1 : (131071 : Nat) < 2 ^ C10.maxDoubleExp :=
    Nat.lt_of_lt_of_le (by decide : 131071 < 2 ^ 17) (Nat.pow_le_pow_right (by decide) (by decide))
  exact Nat.lt_of_le_of_lt hguard (Nat.mul_lt_mul_of_pos_right h1 (Nat.two_pow_pos _))

/-- within the guard the octave loop runs at most 7 times and the multiplier loop at most 7 times
    (131071 / 2^7 < 2036.75 · 2^… : seven halvings bring any admitted frequency below the threshold) -/
theorem noteon_search_short (h : Pitch.Dy) (hguard : h.n ≤ 131071 * 2 ^ h.k) :
    ∃ r, Pitch.loop2 8 (Pitch.loop1 8 h 0).1 0 = .ok r := by
  obtain ⟨b, hb, he, _⟩ := C10.loop1_real h
  rw [he]
  apply C10.loop2_terminates_halved 7 b h
  have hK := Nat.two_pow_pos h.k
  rw [Nat.pow_add]
  omega

end Opn.C02
