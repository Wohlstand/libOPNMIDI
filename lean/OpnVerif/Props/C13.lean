/-
  C13 — Audio calls fill exactly what they report, in the requested sample format.
-/
import OpnVerif.Model.Audio
import OpnVerif.Lemmas.Int

namespace Opn.C13
open Opn Opn.Audio

theorem sub_tmod2 (n : Int) : n - Int.tmod n 2 = 2 * Int.tdiv n 2 := by
  have := Int.tmod_def n 2
  omega

theorem tdiv2_of_neg (x : Int) (h : x < 0) : Int.tdiv x 2 = -((-x) / 2) :=
  tdiv_of_neg x 2 h

/-- the test `< 0` of the C++ is what `toNat` does anyway -/
theorem evenCount_eq (n : Int) : evenCount n = (n - Int.tmod n 2).toNat := by
  unfold evenCount
  split
  · exact (Int.toNat_of_nonpos (by omega)).symm
  · rfl

/-- **generate returns the request rounded down to even, and 0 for negative requests** -/
theorem evenCount_spec (n : Int) : (n < 0 → evenCount n = 0) ∧ (0 ≤ n → (evenCount n : Int) = n - n % 2) := by
  constructor
  · intro h
    have := tdiv_le_of_le_mul (x := n) (U := 0) (c := 2) (by decide) (by omega)
    rw [evenCount_eq, sub_tmod2]
    exact Int.toNat_of_nonpos (by omega)
  · intro h
    rw [evenCount_eq, Int.tmod_eq_emod_of_nonneg h]
    omega

/-! ## conversions: the stored value is the documented conversion of the saturated sample -/

theorem cvtS16_range (x : Int) : -32768 ≤ cvtS16 x ∧ cvtS16 x ≤ 32767 := by
  fun_cases cvtS16 x <;> omega

theorem cvtS16_id (x : Int) (h1 : -32768 ≤ x) (h2 : x ≤ 32767) : cvtS16 x = x := by
  fun_cases cvtS16 x <;> omega

/-- U16 = S16 + 32768, in 0..65535 -/
theorem cvtU16_spec (x : Int) : cvtU16 x = cvtS16 x + 32768 ∧ 0 ≤ cvtU16 x ∧ cvtU16 x ≤ 65535 := by
  have := cvtS16_range x
  unfold cvtU16; omega

theorem tdiv256_range (y : Int) (h1 : -32768 ≤ y) (h2 : y ≤ 32767) : -128 ≤ Int.tdiv y 256 ∧ Int.tdiv y 256 ≤ 127 := by
  refine ⟨Int.le_tdiv_of_mul_le (by decide) h1, ?_⟩
  -- 32767 is no multiple of 256: from zero up the quotient is the floor, below zero it is at most 0
  by_cases hy : 0 ≤ y
  · rw [Int.tdiv_eq_ediv_of_nonneg hy]; omega
  · exact Int.le_trans (tdiv_le_of_le_mul (U := 0) (by decide) (by omega)) (by decide)

/-- S8 is the saturated sample scaled by 1/256 (C truncation), U8 = S8 + 128 -/
theorem cvt8_spec (x : Int) : -128 ≤ cvtS8 x ∧ cvtS8 x ≤ 127 ∧ cvtU8 x = cvtS8 x + 128 ∧ 0 ≤ cvtU8 x ∧ cvtU8 x ≤ 255 := by
  have r := cvtS16_range x
  have := tdiv256_range (cvtS16 x) r.1 r.2
  unfold cvtU8 cvtS8; omega

/-- S24/U24 and S32 are the saturated sample scaled by 2^8 / 2^16, U24 offset by 2^23 -/
theorem cvt24_32_spec (x : Int) :
    cvtS24 x = cvtS16 x * 256 ∧ cvtU24 x = cvtS16 x * 256 + 8388608 ∧ 0 ≤ cvtU24 x ∧ cvtU24 x < 16777216 ∧
    cvtS32 x = cvtS16 x * 65536 ∧ -2147483648 ≤ cvtS32 x ∧ cvtS32 x ≤ 2147483647 := by
  have r := cvtS16_range x
  unfold cvtU24 cvtS24 cvtS32; omega

/-- U32 is S32 with the sign bit flipped: as a 32-bit pattern it is S32 + 2^31 -/
theorem cvtU32_spec (x : Int) : ofSigned 32 (cvtU32 x) = (cvtS32 x + 2147483648).toNat := by
  have r := (cvt24_32_spec x).2.2.2.2.2
  -- S32 + 2^31 is in 0 .. 2^32 − 1, so neither cast changes the pattern
  unfold cvtU32
  rw [ofSigned_toSigned, ofSigned_of_lt 32 _ (by omega) (by simp only [Nat.reducePow]; omega), Nat.mod_eq_of_lt (by omega)]

/-- **unsupported (type, container) pairs are refused** and supported ones are accepted -/
theorem convert_supported (t : SType) (c : Nat) (x : Int) :
    (convert t c x).isSome = (match t with
      | .s8 | .u8 => c == 1 || c == 2 || c == 4
      | .s16 | .u16 => c == 2 || c == 4
      | .s24 | .u24 | .s32 | .u32 | .f32 => c == 4
      | .f64 => c == 8) := by
  fun_cases convert t c x <;> simp [*]

theorem leBytes_length (n : Nat) (v : Int) : (leBytes n v).length = n := by
  unfold leBytes
  rw [List.length_map, List.length_range]

/-- an integer container receives exactly `container` bytes -/
theorem convert_size (t : SType) (c : Nat) (x : Int) (bs : List Nat) (h : convert t c x = some (.bytes bs)) : bs.length = c := by
  revert h
  -- accepted: `leBytes` of the container size (of 4 where only 4 is accepted); refused or float: no bytes
  fun_cases convert t c x <;> intro h <;> cases h <;> simp_all [leBytes_length]

/-! ## placement: exactly the reported frames, each once, at left/right + i*sampleOffset -/

/-- the stores of one period -/
theorem sendStereo_frames (req inFrames outPos off : Nat) (hfit : outPos + inFrames * 2 ≤ req) (heven : outPos % 2 = 0) :
    sendStereo req inFrames outPos off =
      (List.range inFrames).flatMap fun i =>
        [{ right := false, offset := (outPos / 2 + i) * off, frame := outPos / 2 + i },
         { right := true, offset := (outPos / 2 + i) * off, frame := outPos / 2 + i }] := by
  fun_cases sendStereo req inFrames outPos off with
  | case1 h0 => rw [eq_of_beq h0]; rfl
  | case2 _ toCopy =>
    simp only [toCopy]
    rw [Nat.min_eq_right (Nat.le_sub_of_add_le' hfit), Nat.mul_div_cancel _ (by decide)]

/-- frames touched by a list of stores, in order -/
def framesOf (ws : List Write) : List Nat := (ws.filter (fun w => !w.right)).map (·.frame)

theorem framesOf_sendStereo (req n outPos off : Nat) (hfit : outPos + n * 2 ≤ req) (heven : outPos % 2 = 0) :
    framesOf (sendStereo req n outPos off) = (List.range n).map (fun i => outPos / 2 + i) := by
  rw [sendStereo_frames req n outPos off hfit heven, List.map_eq_flatMap]
  unfold framesOf
  rw [List.filter_flatMap, List.map_flatMap]
  rfl

theorem clamp_le (a b : Nat) : (if a > b then b else a) ≤ a ∧ (if a > b then b else a) ≤ b := by
  split <;> omega

/-- **generateFormat, for every way the periods are split**: the value returned and the number of frames stored agree,
    the frames stored are 0, 1, 2, … in order, each once — whatever period sizes the float arithmetic produced. -/
theorem generateLoop_frames (req off : Nat) : ∀ (ps : List Nat) (left got : Nat) (ws : List Write),
    got % 2 = 0 → left % 2 = 0 → got + left = req → framesOf ws = List.range (got / 2) →
    let r := generateLoop req off ps left got ws
    r.1 % 2 = 0 ∧ r.1 ≤ req ∧ framesOf r.2 = List.range (r.1 / 2)
  | ps, left, got, ws, hg, hl, hsum, hw => by
    fun_induction generateLoop req off ps left got ws with
    | case1 | case2 => exact ⟨hg, Nat.le.intro hsum, hw⟩
    | case3 p ps left got ws _ n1 gen ih =>
      -- the period is clamped to 512 frames and to the `left / 2` frames still wanted
      have hle : 2 * gen ≤ left :=
        Nat.le_trans (Nat.mul_le_mul_left 2 (Nat.le_trans (clamp_le n1 512).1 (clamp_le p _).2)) (Nat.mul_div_le left 2)
      rw [Nat.mul_comm gen 2] at ih ⊢
      apply ih ((Nat.add_mul_mod_self_left ..).trans hg) ((Nat.sub_mul_mod hle).trans hl)
        (by rw [Nat.add_assoc, Nat.add_sub_cancel' hle]; exact hsum)
      unfold framesOf at hw ⊢
      rw [Nat.add_mul_div_left _ _ (by decide), List.range_add, List.filter_append, List.map_append, hw]
      exact congrArg _ (framesOf_sendStereo req gen got off (hsum ▸ Nat.add_le_add_left (Nat.mul_comm 2 gen ▸ hle) got) hg)

/-- every store of a period goes to `base + frame * sampleOffset` -/
theorem sendStereo_offsets (req n outPos off : Nat) : ∀ w ∈ sendStereo req n outPos off, w.offset = w.frame * off := by
  intro w hw
  unfold sendStereo at hw
  split at hw
  · cases hw
  · simp only [List.mem_flatMap, List.mem_range, List.mem_cons, List.mem_nil_iff, or_false] at hw
    obtain ⟨i, _, h | h⟩ := hw <;> subst h <;> rfl

/-! ## non-vacuity -/

example : (generateLoop 10 4 [2, 0, 1, 7] 10 0 []).1 = 10 := by decide
example : framesOf (generateLoop 10 4 [2, 0, 1, 7] 10 0 []).2 = [0, 1, 2, 3, 4] := by decide
example : cvtS16 40000 = 32767 ∧ cvtU16 (-40000) = 0 ∧ cvtS8 (-1) = 0 ∧ cvtU8 32767 = 255 ∧ cvtU24 0 = 8388608 := by decide

end Opn.C13
