/-
  C11 — Loudness controls are monotone and stay within the chip's level range: for the model of
  OPN2::touchNote, the level never faults and is 0..127, monotone in velocity/CC7/CC11/master volume and 0
  when one of the last three is; carrier bytes follow it, and lower CC74 brightness never brightens.
  Every `decide` on a table or constant is about the *regenerated* Gen/Tables.lean.
-/
import OpnVerif.Model.Volume
import OpnVerif.Lemmas.Tables

namespace Opn.C11
open Opn Opn.Volume

/-! ## facts about the regenerated tables and constants -/

theorem dmx_len : Gen.dmxVolumeModel.length = 128 := by decide +kernel
theorem dmx_nondec : isNonDec Gen.dmxVolumeModel = true := by decide +kernel
theorem dmx_le127 : allLe 127 Gen.dmxVolumeModel = true := by decide +kernel
theorem dmx_zero : Gen.dmxVolumeModel[0]? = some 0 := by decide
theorem w9x_len : Gen.w9xVolumeMapping.length = 32 := by decide
theorem w9x_noninc : isNonInc Gen.w9xVolumeMapping = true := by decide +kernel
theorem w9x_le63 : allLe 63 Gen.w9xVolumeMapping = true := by decide +kernel
theorem w9x_zero : Gen.w9xVolumeMapping[0]? = some 63 := by decide
theorem algDo_len : Gen.algDo.length = 8 := by decide
theorem algDo_rows : Gen.algDo.all (·.length == 4) = true := by decide
/-- the double→unsigned cast in the Generic model never sees a negative value -/
theorem generic_T0_ok : Gen.genericT0 ≤ Gen.genericMinVolume + 1 := by decide
theorem divs_pos : 0 < Gen.nativeDiv ∧ 0 < Gen.dmxDiv ∧ 0 < Gen.apogeeDiv ∧ 0 < Gen.w9xDiv := by decide
/-- in-range controller values never reach the table clamps (so the clamps are invisible there) -/
theorem dmxClamp_eq : Gen.dmxClamp = 127 := by decide
theorem w9xClamp_eq : Gen.w9xClamp = 31 := by decide
theorem dmx_index_in_range : (127 * 127 * 127) / Gen.dmxDiv ≤ 127 := by decide
theorem w9x_index_in_range : ((127 * 127 * 127 * 127) / Gen.w9xDiv) / 4 ≤ 31 := by decide

theorem plus64_mono {a b : Nat} (h : a ≤ b) : plus64 a ≤ plus64 b := by
  fun_cases plus64 a <;> fun_cases plus64 b <;> omega

theorem clamp127_mono {a b : Nat} (h : a ≤ b) : clamp127 a ≤ clamp127 b := by
  fun_cases clamp127 a <;> fun_cases clamp127 b <;> omega

theorem clamp127_le (a : Nat) : clamp127 a ≤ 127 := by
  fun_cases clamp127 a <;> omega

theorem genericLevel_mono {v w : Nat} (h : v ≤ w) : genericLevel v ≤ genericLevel w := by
  unfold genericLevel
  by_cases hv : v > Gen.genericMinVolume
  · rw [if_pos hv, if_pos (Nat.lt_of_lt_of_le hv h)]
    exact Nat.mul_le_mul_left 2 (filter_le_length_mono Gen.genericThresholds h)
  · rw [if_neg hv]; exact Nat.zero_le _

theorem mul4_mono {a b c d a' b' c' d' : Nat} (h1 : a ≤ a') (h2 : b ≤ b') (h3 : c ≤ c') (h4 : d ≤ d') :
    a * b * c * d ≤ a' * b' * c' * d' :=
  Nat.mul_le_mul (Nat.mul_le_mul (Nat.mul_le_mul h1 h2) h3) h4

theorem mul3_mono {a b c a' b' c' : Nat} (h1 : a ≤ a') (h2 : b ≤ b') (h3 : c ≤ c') :
    a * b * c ≤ a' * b' * c' :=
  Nat.mul_le_mul (Nat.mul_le_mul h1 h2) h3

theorem clip_mono {a a' : Nat} (h : a ≤ a') (n : Nat) : min a n ≤ min a' n :=
  Nat.le_min.mpr ⟨Nat.le_trans (Nat.min_le_left _ _) h, Nat.min_le_right _ _⟩

/-- the velocity index of the DMX model is a clip to 127 as well -/
theorem velIdx_eq (vel : Nat) : (if vel < 128 then vel else 127) = min vel 127 := by
  split <;> omega

theorem dmx_get_ok (i : Nat) (hi : i ≤ 127) (site : String) :
    ∃ t, tbl site Gen.dmxVolumeModel i = .ok t ∧ t ≤ 127 ∧
      Gen.dmxVolumeModel[i]? = some t :=
  tbl_get_ok dmx_le127 (by rw [dmx_len]; omega) site

theorem dmx_mono {i j : Nat} (hij : i ≤ j) (hj : j ≤ 127) {a b : Nat}
    (ha : Gen.dmxVolumeModel[i]? = some a) (hb : Gen.dmxVolumeModel[j]? = some b) : a ≤ b :=
  pairwise_getElem? Nat.le_refl ((isNonDec_iff_pairwise _).mp dmx_nondec) hij ha hb

theorem w9x_get_ok (i : Nat) (hi : i ≤ 31) :
    ∃ t, tbl "W9X_volume_mapping_table" Gen.w9xVolumeMapping i = .ok t ∧ t ≤ 63 ∧
      Gen.w9xVolumeMapping[i]? = some t :=
  tbl_get_ok w9x_le63 (by rw [w9x_len]; omega) _

theorem w9x_anti {i j : Nat} (hij : i ≤ j) (hj : j ≤ 31) {a b : Nat}
    (ha : Gen.w9xVolumeMapping[i]? = some a) (hb : Gen.w9xVolumeMapping[j]? = some b) : b ≤ a :=
  pairwise_getElem? (R := (· ≥ ·)) Nat.le_refl ((isNonInc_iff_pairwise _).mp w9x_noninc) hij ha hb

/-- closed form of the DMX branch -/
theorem rawVolume_dmx (vel vol expr master : Nat) :
    ∃ t tv, Gen.dmxVolumeModel[min ((vol * expr * master) / Gen.dmxDiv) 127]? = some t ∧
      Gen.dmxVolumeModel[if vel < 128 then vel else 127]? = some tv ∧ t ≤ 127 ∧ tv ≤ 127 ∧
      rawVolume .dmx vel vol expr master = .ok (plus64 ((tv * ((t + 1) * 2)) / 512)) := by
  obtain ⟨t, h1, h2, h3⟩ := dmx_get_ok (min ((vol * expr * master) / Gen.dmxDiv) 127)
    (Nat.min_le_right _ _) "s_dmx_volume_model[volume]"
  obtain ⟨tv, g1, g2, g3⟩ := dmx_get_ok (if vel < 128 then vel else 127)
    (velIdx_eq vel ▸ Nat.min_le_right _ _) "s_dmx_volume_model[velocity]"
  refine ⟨t, tv, h3, g3, h2, g2, ?_⟩
  simp only [rawVolume, dmxClamp_eq, h1, g1, bind, Except.bind]

/-- closed form of the Win9x branch -/
theorem rawVolume_w9x (vel vol expr master : Nat) :
    ∃ t, Gen.w9xVolumeMapping[min (((vel * vol * expr * master) / Gen.w9xDiv) / 4) 31]? = some t ∧ t ≤ 63 ∧
      rawVolume .w9x vel vol expr master = .ok (plus64 (63 - t)) := by
  obtain ⟨t, h1, h2, h3⟩ := w9x_get_ok (min (((vel * vol * expr * master) / Gen.w9xDiv) / 4) 31)
    (Nat.min_le_right _ _)
  refine ⟨t, h3, h2, ?_⟩
  simp only [rawVolume, w9xClamp_eq, h1, bind, Except.bind, Nat.not_lt.mpr h2, if_false]

/-- **No table over-read, for every argument value** (also beyond 127): the volume computation
    never faults and the resulting level is in 0..127. -/
theorem volume_total (m : VModel) (vel vol expr master : Nat) :
    ∃ v, volumeOf m vel vol expr master = .ok v ∧ v ≤ 127 := by
  unfold volumeOf
  cases m with
  | dmx =>
      obtain ⟨t, tv, _, _, _, _, h⟩ := rawVolume_dmx vel vol expr master
      rw [h]; exact ⟨_, rfl, clamp127_le _⟩
  | w9x =>
      obtain ⟨t, _, _, h⟩ := rawVolume_w9x vel vol expr master
      rw [h]; exact ⟨_, rfl, clamp127_le _⟩
  | _ => exact ⟨_, rfl, clamp127_le _⟩

/-- **Monotonicity of the level** in velocity, channel volume, expression and master volume,
    jointly (hence in each one with the others fixed), for all five volume models. -/
theorem volume_mono (m : VModel) {vel vel' vol vol' expr expr' master master' : Nat}
    (h1 : vel ≤ vel') (h2 : vol ≤ vol') (h3 : expr ≤ expr') (h4 : master ≤ master')
    {v v' : Nat} (hv : volumeOf m vel vol expr master = .ok v)
    (hv' : volumeOf m vel' vol' expr' master' = .ok v') : v ≤ v' := by
  -- each model's raw volume is monotone, and so are `plus64` and the clamp
  cases m with
  | generic =>
      obtain rfl := Except.ok.inj hv
      obtain rfl := Except.ok.inj hv'
      exact clamp127_mono (genericLevel_mono (mul4_mono h1 h4 h2 h3))
  | native =>
      obtain rfl := Except.ok.inj hv
      obtain rfl := Except.ok.inj hv'
      exact clamp127_mono (plus64_mono (Nat.div_le_div_right (mul4_mono h1 h2 h3 h4)))
  | apogee =>
      obtain rfl := Except.ok.inj hv
      obtain rfl := Except.ok.inj hv'
      have hvel : 64 * (vel + 128) ≤ 64 * (vel' + 128) := Nat.mul_le_mul_left 64 (Nat.add_le_add_right h1 128)
      have hrest := Nat.div_le_div_right (c := Gen.apogeeDiv) (mul3_mono h2 h3 h4)
      exact clamp127_mono (plus64_mono (Nat.div_le_div_right (Nat.mul_le_mul hvel hrest)))
  | dmx =>
      obtain ⟨t, tv, ht, htv, _, _, h⟩ := rawVolume_dmx vel vol expr master
      obtain ⟨t', tv', ht', htv', _, _, h'⟩ := rawVolume_dmx vel' vol' expr' master'
      rw [volumeOf, h] at hv; rw [volumeOf, h'] at hv'
      obtain rfl := Except.ok.inj hv
      obtain rfl := Except.ok.inj hv'
      rw [velIdx_eq] at htv htv'
      have htt : t ≤ t' :=
        dmx_mono (clip_mono (Nat.div_le_div_right (mul3_mono h2 h3 h4)) 127) (Nat.min_le_right _ _) ht ht'
      have htvv : tv ≤ tv' := dmx_mono (clip_mono h1 127) (Nat.min_le_right _ _) htv htv'
      exact clamp127_mono (plus64_mono (Nat.div_le_div_right (Nat.mul_le_mul htvv
        (Nat.mul_le_mul_right 2 (Nat.add_le_add_right htt 1)))))
  | w9x =>
      obtain ⟨t, ht, _, h⟩ := rawVolume_w9x vel vol expr master
      obtain ⟨t', ht', _, h'⟩ := rawVolume_w9x vel' vol' expr' master'
      rw [volumeOf, h] at hv; rw [volumeOf, h'] at hv'
      obtain rfl := Except.ok.inj hv
      obtain rfl := Except.ok.inj hv'
      have htt : t' ≤ t := w9x_anti (clip_mono (Nat.div_le_div_right (Nat.div_le_div_right
        (mul4_mono h1 h2 h3 h4))) 31) (Nat.min_le_right _ _) ht ht'
      exact clamp127_mono (plus64_mono (Nat.sub_le_sub_left htt 63))

/-- **Zero channel volume, expression or master volume gives level 0** in every model. -/
theorem volume_zero (m : VModel) (vel vol expr master : Nat)
    (hz : vol = 0 ∨ expr = 0 ∨ master = 0) : volumeOf m vel vol expr master = .ok 0 := by
  obtain ⟨hp3, hp4, hp4'⟩ :
      vol * expr * master = 0 ∧ vel * vol * expr * master = 0 ∧ vel * master * vol * expr = 0 := by
    rcases hz with rfl | rfl | rfl <;> simp only [Nat.zero_mul, Nat.mul_zero, and_self]
  cases m with
  | generic => rw [volumeOf, rawVolume, hp4', genericLevel, if_neg (Nat.not_lt_zero _)]; rfl
  | native => rw [volumeOf, rawVolume, hp4, Nat.zero_div]; rfl
  | apogee => rw [volumeOf, rawVolume, hp3, Nat.zero_div, Nat.mul_zero, Nat.zero_div]; rfl
  | dmx =>
      obtain ⟨t, tv, ht, _, _, htv, h⟩ := rawVolume_dmx vel vol expr master
      rw [hp3, Nat.zero_div, Nat.zero_min, dmx_zero] at ht
      obtain rfl := Option.some.inj ht
      rw [volumeOf, h, Nat.div_eq_of_lt (Nat.lt_of_le_of_lt (Nat.mul_le_mul_right _ htv) (by decide))]; rfl
  | w9x =>
      obtain ⟨t, ht, _, h⟩ := rawVolume_w9x vel vol expr master
      rw [hp4, Nat.zero_div, Nat.zero_div, Nat.zero_min, w9x_zero] at ht
      obtain rfl := Option.some.inj ht
      rw [volumeOf, h]; rfl

/-- every level byte computed here has the form `127 - q`: it fits the 7 level bits, so neither the
    uint8_t store nor a uint32 wrap-around nor the mask `& 127` changes it -/
theorem sub127_mod (q : Nat) {n : Nat} (hn : 127 < n) : (127 - q) % n = 127 - q :=
  Nat.mod_eq_of_lt (Nat.lt_of_le_of_lt (Nat.sub_le _ _) hn)

theorem tlByte_carrier (v b x : Nat) : tlByte v true b x = scaleTL v x := by
  have : scaleTL v x % 256 = scaleTL v x := sub127_mod _ (by decide)
  simp only [tlByte, wrap8, Bool.not_true, if_true, Bool.false_eq_true, if_false, ite_self, this]

/-- **Carrier range**: a scaled operator's byte is in 0..127 for every volume ≤ 127, level byte and brightness. -/
theorem carrier_range (v b x : Nat) : tlByte v true b x ≤ 127 := by
  rw [tlByte_carrier]; exact Nat.sub_le _ _

/-- **Carrier monotonicity**: a larger level never increases a scaled operator's attenuation. -/
theorem carrier_mono {v v' : Nat} (h : v ≤ v') (b x : Nat) : tlByte v' true b x ≤ tlByte v true b x := by
  rw [tlByte_carrier, tlByte_carrier]
  exact Nat.sub_le_sub_left (Nat.div_le_div_right (Nat.mul_le_mul_right _ h)) _

/-- **Level 0 silences a scaled operator** (attenuation 127). -/
theorem carrier_silent (b x : Nat) : tlByte 0 true b x = 127 := by
  rw [tlByte_carrier, scaleTL, Nat.zero_mul, Nat.zero_div]

/-- **Modulators are untouched** unless modulator scaling or a reduced brightness is in force. -/
theorem modulator_untouched (v x : Nat) (hx : x < 256) : tlByte v false 127 x = x := by
  unfold tlByte wrap8
  simp; omega

theorem brightSeq_shift (b : Nat) : ∀ k, brightSeq (stepB b) k = brightSeq b (k + 1)
  | 0 => rfl
  | k + 1 => congrArg stepB (brightSeq_shift b k)

theorem opLoop_eq_mapIdx (v : Nat) : ∀ (ps : List (Bool × Nat)) (b : Nat),
    opLoop v b ps = ps.mapIdx fun k p => tlByte v p.1 (brightSeq b k) p.2
  | [], _ => rfl
  | (d, x) :: ps, b => by
      simp only [opLoop, List.mapIdx_cons, opLoop_eq_mapIdx v ps, brightSeq_shift]; rfl

/-- **Closed form of the operator loop**: the byte written for operator `k` is `tlByte` of the level,
    that operator's do_op flag, the k-times re-mapped brightness and its level byte. -/
theorem opLoop_get (v : Nat) : ∀ (ps : List (Bool × Nat)) (b k : Nat) (hk : k < ps.length),
    (opLoop v b ps)[k]? = some (tlByte v ps[k].1 (brightSeq b k) ps[k].2) := by
  intro ps b k hk
  rw [opLoop_eq_mapIdx, List.getElem?_mapIdx, List.getElem?_eq_getElem hk]; rfl

/-- the scan `isqrt` runs, stopped after `k` candidates: it holds the largest `r < k` with `r * r ≤ n` -/
theorem sqrtScan (n : Nat) : ∀ k, ∃ r, (List.range k).foldl (fun acc r => if r * r ≤ n then r else acc) 0 = r ∧
    r * r ≤ n ∧ ∀ j < k, j * j ≤ n → j ≤ r
  | 0 => ⟨0, rfl, Nat.zero_le _, fun _ h => absurd h (Nat.not_lt_zero _)⟩
  | k + 1 => by
      obtain ⟨r, hr, h1, h2⟩ := sqrtScan n k
      rw [List.range_succ, List.foldl_append, hr]
      by_cases hk : k * k ≤ n
      · exact ⟨k, if_pos hk, hk, fun j hj _ => Nat.le_of_lt_succ hj⟩
      · exact ⟨r, if_neg hk, h1, fun j hj hjn =>
          h2 j (Nat.lt_of_le_of_ne (Nat.le_of_lt_succ hj) fun e => hk (e ▸ hjn)) hjn⟩

theorem le_isqrt {n : Nat} (hn : n < 361 * 361) {j : Nat} : j ≤ isqrt n ↔ j * j ≤ n := by
  obtain ⟨r, hr, h1, h2⟩ := sqrtScan n 361
  rw [isqrt, hr]
  exact ⟨fun h => Nat.le_trans (Nat.mul_self_le_mul_self h) h1,
    fun h => h2 j (Nat.mul_self_lt_mul_self_iff.mp (Nat.lt_of_le_of_lt h hn)) h⟩

theorem isqrt_mono {m n : Nat} (h : m ≤ n) (hn : n < 361 * 361) : isqrt m ≤ isqrt n :=
  (le_isqrt hn).mpr (Nat.le_trans ((le_isqrt (Nat.lt_of_le_of_lt h hn)).mp (Nat.le_refl _)) h)

/-- `253 * 253 = 64009` is just above `508 * 126 = 64008` -/
theorem isqrt_508_le {b : Nat} (hb : b < 127) : isqrt (508 * b) ≤ 252 :=
  Nat.le_of_lt_succ (Nat.lt_of_not_le fun h => by have := (le_isqrt (by omega)).mp h; omega)

/-- below 127 the uint8_t store loses nothing -/
theorem brightMap_eq {b : Nat} (hb : b < 127) : brightMap b = (isqrt (508 * b) + 1) / 2 := by
  have := isqrt_508_le hb
  exact Nat.mod_eq_of_lt (by omega)

theorem brightMap_lt {b : Nat} (hb : b < 127) : brightMap b ≤ 126 := by
  rw [brightMap_eq hb]
  exact Nat.div_le_div_right (c := 2) (Nat.succ_le_succ (isqrt_508_le hb))

theorem brightMap_mono {b b' : Nat} (h : b ≤ b') (hb' : b' < 127) : brightMap b ≤ brightMap b' := by
  rw [brightMap_eq (Nat.lt_of_le_of_lt h hb'), brightMap_eq hb']
  exact Nat.div_le_div_right (Nat.succ_le_succ (isqrt_mono (Nat.mul_le_mul_left 508 h) (by omega)))

theorem brightMap_table_nondec : isNonDec ((List.range 127).map brightMap) = true :=
  (isNonDec_iff_pairwise _).mpr <| List.pairwise_map.mpr <|
    List.pairwise_lt_range.imp_of_mem fun _ hb' h => brightMap_mono (Nat.le_of_lt h) (List.mem_range.mp hb')

theorem brightMap_table_le126 : allLe 126 ((List.range 127).map brightMap) = true :=
  allLe_iff.mpr <| List.forall_mem_map.mpr fun _ hb => brightMap_lt (List.mem_range.mp hb)

theorem stepB_of_lt {b : Nat} (hb : b < 127) : stepB b = brightMap b :=
  if_pos (bne_iff_ne.mpr (Nat.ne_of_lt hb))

theorem brightSeq_127 : ∀ k, brightSeq 127 k = 127
  | 0 => rfl
  | k + 1 => by rw [brightSeq, brightSeq_127 k]; rfl

theorem brightSeq_lt {b : Nat} (hb : b < 127) : ∀ k, brightSeq b k < 127
  | 0 => hb
  | k + 1 => by
      have ih := brightSeq_lt hb k
      rw [brightSeq, stepB_of_lt ih]
      exact Nat.lt_of_le_of_lt (brightMap_lt ih) (by decide)

theorem brightSeq_mono {b b' : Nat} (h : b ≤ b') (hb' : b' < 127) : ∀ k, brightSeq b k ≤ brightSeq b' k
  | 0 => h
  | k + 1 => by
      have ih := brightSeq_mono h hb' k
      have hlt := brightSeq_lt hb' k
      rw [brightSeq, brightSeq, stepB_of_lt (Nat.lt_of_le_of_lt ih hlt), stepB_of_lt hlt]
      exact brightMap_mono ih hlt

/-- `brightTL` without the uint32 wrap-arounds, which a factor `m ≤ 127` never triggers -/
theorem brightTL_eq {m : Nat} (hm : m ≤ 127) (y : Nat) : brightTL m y = 127 - m * (127 - y % 128) / 127 := by
  have h1 : m * (127 - y % 128) ≤ 127 * 127 := Nat.mul_le_mul hm (Nat.sub_le _ _)
  have h2 : m * (127 - y % 128) / 127 ≤ 127 := Nat.div_le_of_le_mul h1
  rw [brightTL, wrap32, wrap32, Nat.mod_eq_of_lt (Nat.lt_of_le_of_lt h1 (by decide)), Nat.add_sub_assoc h2,
    Nat.add_mod_left, sub127_mod _ (by decide)]

/-- an unscaled operator under reduced brightness `b < 127` (no uint32 wrap-around happens) -/
theorem modulator_byte {b : Nat} (hb : b < 127) (v x : Nat) :
    tlByte v false b x = 127 - (brightMap b * (127 - x % 128)) / 127 := by
  have hne : (b != 127) = true := bne_iff_ne.mpr (Nat.ne_of_lt hb)
  simp only [tlByte, hne, if_true, Bool.not_false, Bool.false_eq_true, if_false, wrap8]
  rw [brightTL_eq (Nat.le_trans (brightMap_lt hb) (by decide))]
  exact sub127_mod _ (by decide)

/-- **Lower brightness never brightens**: for an operator that is not volume-scaled, the 7 level bits the
    chip uses never decrease when CC74 brightness decreases (for every loop iteration `k`, i.e. with the
    in-loop re-mapping exactly as written). -/
theorem brightness_mono {b b' : Nat} (h : b ≤ b') (hb' : b' ≤ 127) (v k x : Nat) (hx : x < 256) :
    tlByte v false (brightSeq b' k) x % 128 ≤ tlByte v false (brightSeq b k) x % 128 := by
  -- below full brightness the byte is `127 - f * (127 - x % 128) / 127` with a factor `f ≤ 126` that grows
  -- with the brightness; at full brightness it is `x` itself, which no factor undercuts
  rcases Nat.eq_or_lt_of_le hb' with rfl | hb'
  · rw [brightSeq_127, modulator_untouched v x hx]
    rcases Nat.eq_or_lt_of_le h with rfl | hb
    · rw [brightSeq_127, modulator_untouched v x hx]; exact Nat.le_refl _
    · have hlt := brightSeq_lt hb k
      rw [modulator_byte hlt, sub127_mod _ (by decide)]
      have : brightMap (brightSeq b k) * (127 - x % 128) / 127 ≤ 127 - x % 128 :=
        Nat.div_le_of_le_mul (Nat.mul_le_mul_right _ (Nat.le_trans (brightMap_lt hlt) (by decide)))
      exact Nat.le_sub_of_add_le (Nat.add_le_of_le_sub' (Nat.le_of_lt_succ (Nat.mod_lt _ (by decide))) this)
  · have hlt := brightSeq_lt hb' k
    rw [modulator_byte (brightSeq_lt (Nat.lt_of_le_of_lt h hb') k), modulator_byte hlt,
      sub127_mod _ (by decide), sub127_mod _ (by decide)]
    exact Nat.sub_le_sub_left (Nat.div_le_div_right (Nat.mul_le_mul_right _
      (brightMap_mono (brightSeq_mono h hb' k) hlt))) _

/-- brightness does not influence volume-scaled operators -/
theorem brightness_carrier_indep (v b b' x : Nat) : tlByte v true b x = tlByte v true b' x := by
  rw [tlByte_carrier, tlByte_carrier]

/-- CC74 → brightness argument is monotone and stays in 0..127 for controller values 0..127 -/
theorem effectiveBrightness_mono (isPerc fullRange : Bool) {c c' : Nat} (h : c ≤ c') (hc : c' ≤ 127) :
    effectiveBrightness isPerc fullRange c ≤ effectiveBrightness isPerc fullRange c' ∧
    effectiveBrightness isPerc fullRange c' ≤ 127 := by
  -- each stage maps 0..127 monotonically into 0..127, so the uint8_t store at the end changes nothing
  have store {a b : Nat} (hab : a ≤ b ∧ b ≤ 127) : a % 256 ≤ b % 256 ∧ b % 256 ≤ 127 := by
    have hb : b < 256 := Nat.lt_of_le_of_lt hab.2 (by decide)
    rw [Nat.mod_eq_of_lt hb, Nat.mod_eq_of_lt (Nat.lt_of_le_of_lt hab.1 hb)]; exact hab
  refine store ?_
  cases isPerc
  · cases fullRange
    · simp only [Bool.not_false, Bool.false_eq_true, if_true, if_false]
      split <;> split <;> omega
    · exact ⟨h, hc⟩
  · cases fullRange <;> exact ⟨Nat.le_refl _, Nat.le_refl _⟩

/-! ## the statements on `touch` itself (what the correspondence compares with the 0x40.. writes) -/

theorem doOps_eq (alg : Nat) (sm : Bool) : ∃ row ∈ Gen.algDo, doOps alg sm = .ok (row.map (· || sm)) := by
  have hl : alg % 8 < Gen.algDo.length := by rw [algDo_len]; exact Nat.mod_lt _ (by decide)
  exact ⟨_, List.getElem_mem hl, by simp only [doOps, tbl_ok _ _ _ hl, bind, Except.bind]⟩

theorem doOps_ok (alg : Nat) (sm : Bool) : ∃ ds, doOps alg sm = .ok ds ∧ ds.length = 4 := by
  obtain ⟨row, hrow, h⟩ := doOps_eq alg sm
  refine ⟨_, h, ?_⟩
  rw [List.length_map]; exact eq_of_beq (List.all_eq_true.mp algDo_rows row hrow)

theorem touch_eq {i : TouchIn} {v : Nat} {ds : List Bool}
    (hv : volumeOf i.model i.vel i.vol i.expr i.master = .ok v) (hd : doOps i.alg i.scaleMod = .ok ds) :
    touch i = .ok (opLoop v i.bright (ds.zip i.tl)) := by
  simp only [touch, hv, hd, bind, Except.bind]

theorem touch_get {i : TouchIn} {v : Nat} {ds : List Bool} {out : List Nat}
    (hv : volumeOf i.model i.vel i.vol i.expr i.master = .ok v) (hd : doOps i.alg i.scaleMod = .ok ds)
    (ho : touch i = .ok out) {k : Nat} {d : Bool} {x : Nat} (hdk : ds[k]? = some d) (hx : i.tl[k]? = some x) :
    out[k]? = some (tlByte v d (brightSeq i.bright k) x) := by
  obtain rfl := Except.ok.inj ((touch_eq hv hd).symm.trans ho)
  rw [opLoop_eq_mapIdx, List.getElem?_mapIdx, (List.getElem?_zip_eq_some (z := (d, x))).mpr ⟨hdk, hx⟩]; rfl

/-- **touchNote never faults and writes four bytes described by `tlByte`** — for every argument value. -/
theorem touch_spec (i : TouchIn) (hl : i.tl.length = 4) :
    ∃ v ds out, volumeOf i.model i.vel i.vol i.expr i.master = .ok v ∧ v ≤ 127 ∧
      doOps i.alg i.scaleMod = .ok ds ∧ ds.length = 4 ∧ touch i = .ok out ∧ out.length = 4 ∧
      ∀ k (_ : k < 4), ∃ d x, ds[k]? = some d ∧ i.tl[k]? = some x ∧
        out[k]? = some (tlByte v d (brightSeq i.bright k) x) := by
  obtain ⟨v, hv, hv127⟩ := volume_total i.model i.vel i.vol i.expr i.master
  obtain ⟨ds, hds, hdl⟩ := doOps_ok i.alg i.scaleMod
  refine ⟨v, ds, _, hv, hv127, hds, hdl, touch_eq hv hds, ?_, fun k hk => ?_⟩
  · rw [opLoop_eq_mapIdx, List.length_mapIdx, List.length_zip, hdl, hl]; rfl
  · obtain ⟨d, hdk⟩ := exists_getElem? hdl hk
    obtain ⟨x, hx⟩ := exists_getElem? hl hk
    exact ⟨d, x, hdk, hx, touch_get hv hds (touch_eq hv hds) hdk hx⟩

/-- **C11, range**: every volume-scaled operator's byte is ≤ 127; unscaled ones equal the instrument byte
    at full brightness. -/
theorem c11_range (i : TouchIn) (hl : i.tl.length = 4) (htl : ∀ x ∈ i.tl, x < 256)
    (out : List Nat) (ho : touch i = .ok out) (ds : List Bool) (hd : doOps i.alg i.scaleMod = .ok ds)
    (k : Nat) (hk : k < 4) (y : Nat) (hy : out[k]? = some y) (d : Bool) (hdk : ds[k]? = some d) :
    (d = true → y ≤ 127) ∧ (d = false → i.bright = 127 → i.tl[k]? = some y) := by
  obtain ⟨v, hv, _⟩ := volume_total i.model i.vel i.vol i.expr i.master
  obtain ⟨x, hx⟩ := exists_getElem? hl hk
  obtain rfl := Option.some.inj ((touch_get hv hd ho hdk hx).symm.trans hy)
  constructor
  · rintro rfl; exact carrier_range _ _ _
  · rintro rfl hb
    rw [hb, brightSeq_127, modulator_untouched _ _ (htl _ (List.mem_of_getElem? hx))]; exact hx

/-- **C11, monotonicity**: raising velocity, CC7, CC11 or master volume (others fixed or raised too)
    never increases the attenuation of a volume-scaled operator. -/
theorem c11_mono (i i' : TouchIn) (hl : i.tl.length = 4)
    (hsame : i'.model = i.model ∧ i'.alg = i.alg ∧ i'.scaleMod = i.scaleMod ∧ i'.bright = i.bright ∧ i'.tl = i.tl)
    (h1 : i.vel ≤ i'.vel) (h2 : i.vol ≤ i'.vol) (h3 : i.expr ≤ i'.expr) (h4 : i.master ≤ i'.master)
    (out out' : List Nat) (ho : touch i = .ok out) (ho' : touch i' = .ok out')
    (ds : List Bool) (hd : doOps i.alg i.scaleMod = .ok ds)
    (k : Nat) (hk : k < 4) (hdk : ds[k]? = some true) (y y' : Nat)
    (hy : out[k]? = some y) (hy' : out'[k]? = some y') : y' ≤ y := by
  obtain ⟨hm, ha, hs, hb, ht⟩ := hsame
  obtain ⟨v, hv, _⟩ := volume_total i.model i.vel i.vol i.expr i.master
  obtain ⟨v', hv', _⟩ := volume_total i'.model i'.vel i'.vol i'.expr i'.master
  obtain ⟨x, hx⟩ := exists_getElem? hl hk
  obtain rfl := Option.some.inj ((touch_get hv hd ho hdk hx).symm.trans hy)
  obtain rfl := Option.some.inj ((touch_get hv' (ha ▸ hs ▸ hd) ho' hdk (ht ▸ hx)).symm.trans hy')
  rw [hb]
  exact carrier_mono (volume_mono i.model h1 h2 h3 h4 hv (hm ▸ hv')) _ _

/-- **C11, silence**: zero CC7, CC11 or master volume silences every volume-scaled operator. -/
theorem c11_zero (i : TouchIn) (hl : i.tl.length = 4) (hz : i.vol = 0 ∨ i.expr = 0 ∨ i.master = 0)
    (out : List Nat) (ho : touch i = .ok out) (ds : List Bool) (hd : doOps i.alg i.scaleMod = .ok ds)
    (k : Nat) (hk : k < 4) (hdk : ds[k]? = some true) : out[k]? = some 127 := by
  obtain ⟨x, hx⟩ := exists_getElem? hl hk
  rw [touch_get (volume_zero i.model i.vel i.vol i.expr i.master hz) hd ho hdk hx, carrier_silent]

/-- **C11, brightness**: with everything else fixed, a lower brightness argument never lowers the 7 level
    bits of any operator (scaled operators do not depend on it at all). -/
theorem c11_brightness (i i' : TouchIn) (hl : i.tl.length = 4) (htl : ∀ x ∈ i.tl, x < 256)
    (hsame : i'.model = i.model ∧ i'.alg = i.alg ∧ i'.scaleMod = i.scaleMod ∧ i'.tl = i.tl ∧
      i'.vel = i.vel ∧ i'.vol = i.vol ∧ i'.expr = i.expr ∧ i'.master = i.master)
    (hb : i.bright ≤ i'.bright) (hb' : i'.bright ≤ 127)
    (out out' : List Nat) (ho : touch i = .ok out) (ho' : touch i' = .ok out')
    (k : Nat) (hk : k < 4) (y y' : Nat) (hy : out[k]? = some y) (hy' : out'[k]? = some y') :
    y' % 128 ≤ y % 128 := by
  obtain ⟨hm, ha, hs, ht, e1, e2, e3, e4⟩ := hsame
  obtain ⟨v, hv, _⟩ := volume_total i.model i.vel i.vol i.expr i.master
  obtain ⟨ds, hd, hdl⟩ := doOps_ok i.alg i.scaleMod
  obtain ⟨d, hdk⟩ := exists_getElem? hdl hk
  obtain ⟨x, hx⟩ := exists_getElem? hl hk
  obtain rfl := Option.some.inj ((touch_get hv hd ho hdk hx).symm.trans hy)
  obtain rfl := Option.some.inj ((touch_get (by rw [hm, e1, e2, e3, e4]; exact hv) (by rw [ha, hs]; exact hd)
    ho' hdk (ht ▸ hx)).symm.trans hy')
  cases d with
  | true => rw [brightness_carrier_indep v _ (brightSeq i.bright k)]; exact Nat.le_refl _
  | false => exact brightness_mono hb hb' v k _ (htl _ (List.mem_of_getElem? hx))

/-- every algorithm has at least one carrier (operator 4), so the three theorems above are never vacuous -/
theorem carrier_exists (alg : Nat) (sm : Bool) : ∃ ds, doOps alg sm = .ok ds ∧ ds[3]? = some true := by
  have key : Gen.algDo.all (fun row => row[3]? == some true) = true := by decide
  obtain ⟨row, hrow, h⟩ := doOps_eq alg sm
  refine ⟨_, h, ?_⟩
  rw [List.getElem?_map, eq_of_beq (List.all_eq_true.mp key row hrow)]; rfl

/-! ## non-vacuity: concrete inputs meeting the hypotheses, with non-trivial results -/

def exDmx : TouchIn := { model := .dmx, alg := 4, scaleMod := false, bright := 127, vel := 100, vol := 100, expr := 127, master := 127, tl := [35, 20, 40, 10] }
def exGen : TouchIn := { model := .generic, alg := 7, scaleMod := false, bright := 40, vel := 64, vol := 90, expr := 127, master := 127, tl := [0, 10, 20, 127] }
example : (touch exDmx).toOption = some [35, 20, 49, 22] := by decide +kernel
example : (touch exGen).toOption = some [25, 34, 42, 127] := by decide +kernel
example : (volumeOf .w9x 127 127 127 127).toOption = some 127 ∧ (volumeOf .w9x 1 1 1 1).toOption = some 0 := by decide +kernel

end Opn.C11
