/-
  C08 — Seeking equals playing up to the target, minus the sounding notes.
-/
import OpnVerif.Lemmas.Seq
import OpnVerif.Props.C09

namespace Opn.C08
open Opn Opn.Seq

/-- negative targets are ignored: the sequencer state is untouched and nothing is delivered -/
theorem seek_negative (s : Seq) (t gran : Rat) (fuel : Nat) (h : t < 0) : seek s t gran fuel = (s, [], 0) := by
  unfold seek
  simp [h]

/-- seeking beyond the end rewinds to the start -/
theorem seek_beyond (s : Seq) (t gran : Rat) (fuel : Nat) (h0 : ¬ t < 0) (h : t > s.fullLen) : seek s t gran fuel = (rewind s, [], 0) := by
  unfold seek
  simp [h0, h]

/-- rewinding restores the begin position and clears the end flag -/
theorem rewind_pos (s : Seq) : (rewind s).cur = s.beginPos ∧ (rewind s).atEnd = false := by
  simp [rewind]

/-- **the tempo belongs to the position**: rewinding (and therefore every seek, which rewinds first) restores the tempo of the
    begin of the song — what is replayed afterwards runs at the speed the file gives it, whatever tempo the later parts set -/
theorem rewind_restores_tempo (s : Seq) : (rewind s).tempo = s.beginTempo ∧ (rewind s).beginTempo = s.beginTempo ∧
    (rewind s).loopBeginTempo = s.loopBeginTempo := by
  simp [rewind]

/-- rewinding twice is rewinding once (position, tempo, end flag, loop bookkeeping) -/
theorem rewind_idem (s : Seq) : rewind (rewind s) = rewind s := by
  simp [rewind, Loop.reset]

/-- **a seek never changes whether looping is enabled** (it switches looping off while it fast-forwards and restores the
    flag on every path, also when the fast-forward runs into the end of the song) -/
theorem seek_keeps_loop_flag (s : Seq) (t gran : Rat) (fuel : Nat) : (seek s t gran fuel).1.loopEnabled = s.loopEnabled := by
  fun_cases seek s t gran fuel <;> rfl

/-- during a seek the row loop skips every note-on before it reaches `handleEvent`: no note is started -/
theorem rowEvents_seek_skips_noteOn (tk : Nat) (t : Rat) (e : Ev) (es : List Ev) (last : Int) (r : RowRes) (h : e.type = tNoteOn) :
    rowEvents true tk t (e :: es) last r = rowEvents true tk t es last r := by
  rw [rowEvents]
  simp [h]

/-- **a row is replayed by a seek exactly as linear playback would play it with its note-ons taken out**: same sequencer
    state, same tempo changes, same loop bookkeeping, same controller / program / SysEx events delivered -/
theorem rowEvents_seek_eq_filtered (tk : Nat) (t : Rat) : ∀ (es : List Ev) (last : Int) (r : RowRes),
    rowEvents true tk t es last r = rowEvents false tk t (es.filter (fun e => e.type != tNoteOn)) last r
  | es, last, r => by
    fun_induction rowEvents true tk t es last r
    case case1 => rfl
    case case2 h ih =>
      simp at h
      simpa [h] using ih
    case case3 h _ _ hx =>
      simp at h
      simp [h, rowEvents, hx]
    case case4 h _ _ hx ih =>
      simp at h
      simpa [h, rowEvents, hx] using ih

/-! ## a seek starts no note (lifted from the row to the whole seek) -/

/-- an output that is not a note-on call into the synthesizer -/
def NotOn (o : Out) : Prop := ∀ ch a b, o ≠ Out.rt tNoteOn ch a b

/-- handleEvent calls rt_noteOn only for a note-on event -/
theorem handleEvent_noteOn_only (s : Seq) (track : Nat) (e : Ev) (status : Int) (h : e.type ≠ tNoteOn) :
    ∀ o ∈ (handleEvent s track e status).2.2, NotOn o :=
  fun _ ho _ _ _ heq => h (handleEvent_rt (heq ▸ ho))

def AllNotOn (l : List Out) : Prop := ∀ o ∈ l, NotOn o

theorem allNotOn_nil : AllNotOn [] := List.forall_mem_nil _

theorem allNotOn_append {l1 l2 : List Out} (h1 : AllNotOn l1) (h2 : AllNotOn l2) : AllNotOn (l1 ++ l2) :=
  List.forall_mem_append.2 ⟨h1, h2⟩

theorem allNotOn_allNotesOff : AllNotOn allNotesOff := by
  intro o ho ch a b heq
  subst heq
  simp [allNotesOff, tCtrl, tNoteOn] at ho

theorem allNotOn_hook (c : Bool) (x : Out) (hx : NotOn x) : AllNotOn (if c then [x] else []) := by
  cases c
  · exact allNotOn_nil
  · exact List.forall_mem_singleton.2 hx

theorem notOn_loopStart : NotOn Out.loopStart := by intro ch a b h; cases h
theorem notOn_loopEnd : NotOn Out.loopEnd := by intro ch a b h; cases h

/-! eventStep in steps (each raises one of the loop flags handleEvent set) -/
def raiseStart (r : RowRes) : RowRes :=
  if r.s.loop.caughtStart then
    { r with s := { r.s with loop := { r.s.loop with caughtStart := false } }, nStart := r.nStart + 1,
             outs := r.outs ++ (if r.s.hookLoopStart then [Out.loopStart] else []) } else r
def raiseStackStart (rowTime : Rat) (r : RowRes) : RowRes :=
  if r.s.loop.caughtStackStart then
    { r with s := { r.s with loop := { r.s.loop with caughtStackStart := false } }, nStackStart := r.nStackStart + 1,
             outs := r.outs ++ (if r.s.hookLoopStart && r.s.loopStartTime ≥ rowTime then [Out.loopStart] else []) } else r
def raiseBreak (r : RowRes) : RowRes :=
  if r.s.loop.caughtStackBreak then
    { r with s := { r.s with loop := { r.s.loop with caughtStackBreak := false } }, nStackBreaks := r.nStackBreaks + 1 } else r
def raiseEnd (rowTime : Rat) (r : RowRes) : RowRes :=
  if r.s.loop.caughtStackEnd then
    { r with s := { r.s with loop := { r.s.loop with caughtStackEnd := false } }, nStackEnds := r.nStackEnds + 1, stackEndsTime := rowTime } else r

theorem eventStep_steps (tk : Nat) (t : Rat) (e : Ev) (last : Int) (r : RowRes) :
    eventStep tk t e last r =
      (let h := handleEvent r.s tk e last
       let r1 := raiseBreak (raiseStackStart t (raiseStart { r with s := h.1, outs := r.outs ++ h.2.2 }))
       if r1.s.loop.caughtEnd || r1.s.loop.isStackEnd then ({ raiseEnd t r1 with doJump := true }, h.2.1, true) else (r1, h.2.1, false)) := by
  unfold eventStep
  generalize handleEvent r.s tk e last = h
  rfl

theorem raiseStart_outs (r : RowRes) (h : AllNotOn r.outs) : AllNotOn (raiseStart r).outs := by
  fun_cases raiseStart r
  · exact allNotOn_append h (allNotOn_hook _ _ notOn_loopStart)
  · exact h
theorem raiseStackStart_outs (t : Rat) (r : RowRes) (h : AllNotOn r.outs) : AllNotOn (raiseStackStart t r).outs := by
  fun_cases raiseStackStart t r
  · exact allNotOn_append h (allNotOn_hook _ _ notOn_loopStart)
  · exact h
theorem raiseBreak_outs (r : RowRes) : (raiseBreak r).outs = r.outs := by
  fun_cases raiseBreak r <;> rfl
theorem raiseEnd_outs (t : Rat) (r : RowRes) : (raiseEnd t r).outs = r.outs := by
  fun_cases raiseEnd t r <;> rfl

/-- one event that is not a note-on adds no note-on to the outputs of its row -/
theorem eventStep_notOn (tk : Nat) (t : Rat) (e : Ev) (last : Int) (r : RowRes) (he : e.type ≠ tNoteOn) (hr : AllNotOn r.outs) :
    AllNotOn (eventStep tk t e last r).1.outs := by
  have hh := handleEvent_noteOn_only r.s tk e last he
  rw [eventStep_steps]
  generalize handleEvent r.s tk e last = x at hh ⊢
  have h := raiseStackStart_outs t _ (raiseStart_outs { r with s := x.1, outs := r.outs ++ x.2.2 } (allNotOn_append hr hh))
  rw [← raiseBreak_outs] at h
  dsimp only
  split
  · exact (raiseEnd_outs t _).symm ▸ h
  · exact h

/-- a row replayed by a seek adds no note-on -/
theorem rowEvents_seek_notOn (tk : Nat) (t : Rat) : ∀ (es : List Ev) (last : Int) (r : RowRes), AllNotOn r.outs →
    AllNotOn (rowEvents true tk t es last r).1.outs
  | es, last, r => by
    fun_induction rowEvents true tk t es last r
    case case1 => exact id
    case case2 ih => exact ih
    case case3 hne _ _ hx => exact fun h => (hx ▸ eventStep_notOn tk t _ _ _ (by simpa using hne) h :)
    case case4 hne _ _ hx ih => exact fun h => ih (hx ▸ eventStep_notOn tk t _ _ _ (by simpa using hne) h :)

theorem tracksPass_seek_notOn : ∀ (fuel tk : Nat) (r : RowRes), AllNotOn r.outs → AllNotOn (tracksPass true fuel tk r).outs
  | fuel, tk, r => by
    fun_induction tracksPass true fuel tk r
    case case1 | case2 | case3 => exact id
    case case4 hrow _ _ _ => exact fun h => (hrow ▸ rowEvents_seek_notOn _ _ _ _ _ h :)
    case case5 hrow _ _ _ ih => exact fun h => ih (hrow ▸ rowEvents_seek_notOn _ _ _ _ _ h :)
    case case6 ih => exact ih

theorem stackEndsN_notOn : ∀ (n : Nat) (s : Seq) (t : Rat) (outs : List Out), AllNotOn outs → AllNotOn (stackEndsN n s t outs).2
  | 0, _, _, _, h => h
  | n + 1, s, t, outs, h => by
    rcases stackEndsN_succ n s t outs with ⟨s', hook, _, he⟩ | ⟨s', _, he⟩
    · rw [he]
      exact allNotOn_append h (allNotOn_append (allNotOn_hook _ _ notOn_loopEnd) allNotOn_allNotesOff)
    · rw [he]
      exact stackEndsN_notOn n s' t outs h

theorem loopTail_notOn (s : Seq) (nf : Bool) : AllNotOn (loopTail s nf).2 := by
  rw [C09.loopTail_outputs]
  exact allNotOn_append (allNotOn_hook _ _ notOn_loopEnd) allNotOn_allNotesOff

/-- the tail of processEvents: what happens once the rows of all tracks have been handled -/
def peFinish (r : RowRes) (rowBegin : Position) (s : Seq) (notFound : Bool) : Bool × Seq × List Out :=
  if r.nStackStart > 0 then (true, { s with loop := stackUpN r.nStackStart s.loop rowBegin }, r.outs) else
  let s := if r.nStackBreaks > 0 then { s with loop := stackBreakN r.nStackBreaks s.loop } else s
  if r.nStackEnds > 0 then
    let (s, outs) := stackEndsN r.nStackEnds s r.stackEndsTime r.outs
    (true, s, outs)
  else
  if notFound || s.loop.caughtEnd then
    let (s, o) := loopTail s notFound
    (true, s, r.outs ++ o)
  else (true, s, r.outs)

/-- processEvents with its tail named: the rows are handled by `tracksPass`, the rest is bookkeeping and `peFinish` -/
theorem processEvents_shape (s : Seq) (isSeek : Bool) :
    ∃ (s0 s1 s2 : Seq) (pos : Position) (nf : Bool),
      processEvents s isSeek = (if s0.atEnd then (false, s0, []) else
        peFinish (tracksPass isSeek (s1.cur.track.length + 1) 0 { s := s1 }) pos s2 nf) :=
  ⟨_, _, _, _, _, rfl⟩

theorem peFinish_notOn (r : RowRes) (pos : Position) (s : Seq) (nf : Bool) (h : AllNotOn r.outs) : AllNotOn (peFinish r pos s nf).2.2 := by
  fun_cases peFinish r pos s nf
  case case1 | case4 => exact h
  case case2 hx => exact hx ▸ stackEndsN_notOn _ _ _ _ h
  case case3 hx => exact allNotOn_append h (hx ▸ loopTail_notOn _ _ :)

/-- **one round of the sequencer in seek mode calls no rt_noteOn** -/
theorem processEvents_seek_notOn (s : Seq) : AllNotOn (processEvents s true).2.2 := by
  obtain ⟨s0, s1, s2, pos, nf, h⟩ := processEvents_shape s true
  rw [h]
  split
  · exact allNotOn_nil
  · exact peFinish_notOn _ _ _ _ (tracksPass_seek_notOn _ 0 _ allNotOn_nil)

def AllAllNotOn (ls : List (List Out)) : Prop := ∀ l ∈ ls, AllNotOn l

theorem allAll_cons {l : List Out} {ls : List (List Out)} (h : AllNotOn l) (hs : AllAllNotOn ls) : AllAllNotOn (l :: ls) :=
  List.forall_mem_cons.2 ⟨h, hs⟩

theorem seekInner_notOn (half : Rat) : ∀ (fuel af : Nat) (dst : Rat) (s : Seq) (outs : List (List Out)), AllAllNotOn outs →
    AllAllNotOn (seekInner half fuel af dst s outs).2.1
  | fuel, af, dst, s, outs => by
    fun_induction seekInner half fuel af dst s outs
    case case1 | case5 => exact id
    case case2 hp _ => exact allAll_cons (hp ▸ processEvents_seek_notOn _ :)
    case case3 hp _ _ ih | case4 hp _ _ ih => exact fun h => ih (allAll_cons (hp ▸ processEvents_seek_notOn _ :) h)

theorem seekOuter_notOn (seconds half : Rat) : ∀ (fuel inner : Nat) (s : Seq) (outs : List (List Out)), AllAllNotOn outs →
    AllAllNotOn (seekOuter seconds half fuel inner s outs).2
  | fuel, inner, s, outs => by
    fun_induction seekOuter seconds half fuel inner s outs
    case case1 | case3 => exact id
    case case2 hi _ ih => exact fun h => ih (hi ▸ seekInner_notOn half _ _ _ _ _ h :)

theorem flat_notOn (ls : List (List Out)) (h : AllAllNotOn ls) : AllNotOn ls.reverse.flatten :=
  List.forall_mem_flatten.2 fun l hl => h l (List.mem_reverse.1 hl)

theorem allNotOn_ite {c : Prop} [Decidable c] {x y : Seq × List Out × Rat} (hx : AllNotOn x.2.1) (hy : AllNotOn y.2.1) :
    AllNotOn (if c then x else y).2.1 := by split <;> assumption

/-- **C08: a seek starts no note** — whatever the song, the target, the granularity and the state before, none of the calls a seek makes
    into the synthesizer is a note-on (the controller, program, pitch-bend, SysEx events up to the target are all replayed:
    `rowEvents_seek_eq_filtered`) -/
theorem seek_starts_no_note (s : Seq) (t gran : Rat) (fuel : Nat) :
    ∀ o ∈ (seek s t gran fuel).2.1, ∀ ch a b, o ≠ Out.rt tNoteOn ch a b := by
  show AllNotOn (seek s t gran fuel).2.1
  fun_cases seek s t gran fuel
  case case1 | case2 => exact allNotOn_nil
  case case3 ho _ _ _ | case4 ho _ _ _ => exact flat_notOn _ (ho ▸ seekOuter_notOn t _ 4 fuel _ [] nofun :)

end Opn.C08
