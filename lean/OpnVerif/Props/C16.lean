/-
  C16 — The bank API behaves as a map (percussive, MSB, LSB) → 128 instruments.
  Theorems are about the bucket-chain model (Model/BankMap.lean) and the API layer (Model/BankApi.lean).
-/
import OpnVerif.Model.BankApi
import OpnVerif.Lemmas.List

namespace Opn.C16
open Opn Opn.BankMap Opn.BankApi

variable {β : Type}

structure Wf (m : BMap β) : Prop where
  len : m.buckets.length = 256
  hashed : ∀ i, ∀ p ∈ chain m i, bhash p.1 = i
  nodup : ∀ i, ((chain m i).map (·.1)).Nodup
  size_eq : m.size = (m.buckets.map List.length).sum
  cap_eq : m.size + m.free = m.capacity

theorem hash_lt (k : Nat) : bhash k < 256 := Nat.mod_lt _ (by decide)

theorem chain_mem_buckets (m : BMap β) (i : Nat) (hi : i < m.buckets.length) : chain m i = m.buckets[i] := by
  unfold chain; rw [List.getElem?_eq_getElem hi]; rfl

theorem chain_modify' (m : BMap β) (j : Nat) (hj : j < m.buckets.length) (f : List (Nat × β) → List (Nat × β)) (i : Nat) (bs' : BMap β)
    (hb : bs'.buckets = m.buckets.modify j f) : chain bs' i = if i = j then f (chain m i) else chain m i := by
  unfold chain; rw [hb]
  by_cases hij : i = j
  · subst hij; rw [if_pos rfl, List.getElem?_modify_eq, List.getElem?_eq_getElem hj]; rfl
  · rw [if_neg hij, List.getElem?_modify_ne _ _ (Ne.symm hij)]

/-- … and where bucket `j` is absent `modify` does nothing, and `chain` reads `[]`, which `f` keeps -/
theorem chain_modify (m : BMap β) (j : Nat) (f : List (Nat × β) → List (Nat × β)) (hf : f [] = []) (i : Nat) (bs' : BMap β)
    (hb : bs'.buckets = m.buckets.modify j f) : chain bs' i = if i = j then f (chain m i) else chain m i := by
  by_cases hj : j < m.buckets.length
  · exact chain_modify' m j hj f i bs' hb
  · have hj := Nat.le_of_not_lt hj
    unfold chain; rw [hb, List.modify_eq_self hj]; split
    · subst i; rw [List.getElem?_eq_none hj]; exact hf.symm
    · rfl

theorem sum_modify (L : List (List (Nat × β))) (j : Nat) (hj : j < L.length) (f : List (Nat × β) → List (Nat × β)) :
    ((L.modify j f).map List.length).sum + (L[j]).length = (L.map List.length).sum + (f L[j]).length := by
  induction L generalizing j with
  | nil => cases hj
  | cons a L ih =>
    cases j with
    | zero =>
      simp only [List.modify_zero_cons, List.map_cons, List.sum_cons, List.getElem_cons_zero]
      rw [Nat.add_assoc, Nat.add_comm _ a.length, Nat.add_comm (a.length + _)]
    | succ j =>
      simp only [List.modify_succ_cons, List.map_cons, List.sum_cons, List.getElem_cons_succ]
      rw [Nat.add_assoc, ih j (Nat.lt_of_succ_lt_succ hj), Nat.add_assoc]

theorem mem_le_sum : ∀ (xs : List Nat) (x : Nat), x ∈ xs → x ≤ xs.sum
  | [], _, h => by cases h
  | a :: xs, x, h => by
      rw [List.sum_cons]
      cases h with
      | head => exact Nat.le_add_right ..
      | tail _ h' => exact Nat.le_trans (mem_le_sum xs x h') (Nat.le_add_left ..)

theorem chain_length_le {m : BMap β} (hw : Wf m) (i : Nat) : (chain m i).length ≤ m.size := by
  rw [hw.size_eq]; unfold chain
  cases h : m.buckets[i]? with
  | none => exact Nat.zero_le _
  | some c => exact mem_le_sum _ _ (List.mem_map.mpr ⟨c, List.mem_of_getElem? h, rfl⟩)

theorem find_eq (m : BMap β) (k : Nat) : bfind m k = ((chain m (bhash k)).find? (·.1 == k)).map (·.2) := rfl

theorem find_none_iff (m : BMap β) (k : Nat) : bfind m k = none ↔ ∀ p ∈ chain m (bhash k), p.1 ≠ k := by
  rw [find_eq, Option.map_eq_none_iff, List.find?_eq_none]
  simp only [beq_iff_eq, ne_eq]

theorem find_some_mem (m : BMap β) (k : Nat) (v : β) (h : bfind m k = some v) : (k, v) ∈ chain m (bhash k) := by
  rw [find_eq, Option.map_eq_some_iff] at h
  obtain ⟨⟨a, b⟩, hp, rfl⟩ := h
  obtain rfl : a = k := by simpa using List.find?_some hp
  exact List.mem_of_find?_eq_some hp

/-- in a well-formed map a key occurs in its chain with exactly the value `bfind` returns -/
theorem mem_chain_find (m : BMap β) (hw : Wf m) (k : Nat) (v : β) (h : (k, v) ∈ chain m (bhash k)) : bfind m k = some v := by
  obtain ⟨s, t, hc, hne, -⟩ := split_at_key (hw.nodup _) h rfl
  rw [find_eq, hc, List.find?_append, List.find?_eq_none.mpr fun p hp => by simpa using hne p (List.mem_append_left t hp),
    List.find?_cons_of_pos (by simp)]
  rfl

theorem find_some_iff {m : BMap β} (hw : Wf m) (k : Nat) (v : β) : bfind m k = some v ↔ (k, v) ∈ chain m (bhash k) :=
  ⟨find_some_mem m k v, mem_chain_find m hw k v⟩

/-- what `bempty` and `bclear` share: 256 empty buckets and a size counter of zero -/
theorem wf_of_buckets_empty {m : BMap β} (hb : m.buckets = List.replicate 256 []) (hs : m.size = 0)
    (hcap : m.size + m.free = m.capacity) : Wf m ∧ ∀ k, bfind m k = none := by
  have hch : ∀ i, chain m i = [] := fun i => by
    unfold chain; rw [hb, List.getElem?_replicate]; split <;> rfl
  refine ⟨⟨hb ▸ List.length_replicate, fun i p hp => absurd (hch i ▸ hp) List.not_mem_nil, fun i => hch i ▸ List.nodup_nil, ?_, hcap⟩,
    fun k => by rw [find_eq, hch]; rfl⟩
  rw [hs, hb, List.map_replicate, List.sum_replicate_nat]; rfl

theorem wf_empty : Wf (bempty : BMap β) := (wf_of_buckets_empty rfl rfl rfl).1

/-- What `blink`, `berase` and `bupdate` have in common: `m'` is `m` with the chain `c` of `k`'s bucket replaced by `f c`, and
    with new counters.  If `f` adds or removes only pairs with key `k`, the keys of `f c` are distinct, and the counters follow
    the change of length, then `m'` is well-formed, `f c` is its chain for `k`, and every other key is looked up as before. -/
theorem wf_modify {m m' : BMap β} (hw : Wf m) {k : Nat} {f : List (Nat × β) → List (Nat × β)} {c : List (Nat × β)}
    (hc : chain m (bhash k) = c) (hb : m'.buckets = m.buckets.modify (bhash k) f)
    (hmem : ∀ p, p.1 ≠ k → (p ∈ f c ↔ p ∈ c)) (hnd : ((f c).map (·.1)).Nodup)
    (hsize : m'.size + c.length = m.size + (f c).length) (hcap : m'.size + m'.free = m'.capacity) :
    Wf m' ∧ chain m' (bhash k) = f c ∧ ∀ k', k' ≠ k → bfind m' k' = bfind m k' := by
  subst hc
  have hlt : bhash k < m.buckets.length := hw.len ▸ hash_lt k
  have hch := fun i => chain_modify' m _ hlt f i m' hb
  have hck : chain m' (bhash k) = f (chain m (bhash k)) := by rw [hch, if_pos rfl]
  -- every chain of `m'` is an old chain, or `f c` in the bucket of `k`
  have hchains : ∀ i, (∀ p ∈ chain m' i, bhash p.1 = i) ∧ ((chain m' i).map (·.1)).Nodup := fun i => by
    rw [hch]; split
    · subst i
      exact ⟨fun p hp => if hp1 : p.1 = k then hp1 ▸ rfl else hw.hashed _ p ((hmem p hp1).mp hp), hnd⟩
    · exact ⟨hw.hashed i, hw.nodup i⟩
  have hw' : Wf m' := by
    refine ⟨by rw [hb, List.length_modify, hw.len], fun i => (hchains i).1, fun i => (hchains i).2, ?_, hcap⟩
    have hs := sum_modify m.buckets (bhash k) hlt f
    rw [← chain_mem_buckets m _ hlt, ← hb, ← hw.size_eq] at hs
    exact Nat.add_right_cancel (hsize.trans hs.symm)
  refine ⟨hw', hck, fun k' hne => ?_⟩
  by_cases hh : bhash k' = bhash k
  · apply Option.ext; intro v
    rw [find_some_iff hw', find_some_iff hw, hh, hck]; exact hmem (k', v) hne
  · rw [find_eq, find_eq, hch, if_neg hh]

/-! ## the operations preserve well-formedness and act as a map -/

theorem wf_reserve (m : BMap β) (hw : Wf m) (n : Nat) : Wf (breserve m n) ∧ n ≤ (breserve m n).capacity ∧
    (∀ k, bfind (breserve m n) k = bfind m k) ∧ (breserve m n).size = m.size := by
  unfold breserve
  split
  · exact ⟨hw, ‹_›, fun _ => rfl, rfl⟩
  · exact ⟨⟨hw.len, hw.hashed, hw.nodup, hw.size_eq, by rw [← Nat.add_assoc, hw.cap_eq]⟩,
      Nat.sub_le_iff_le_add'.mp (Nat.le_max_right ..), fun _ => rfl, rfl⟩

theorem wf_link (m : BMap β) (hw : Wf m) (k : Nat) (v : β) (habs : bfind m k = none) (hfree : 0 < m.free) :
    Wf (blink m k v) ∧ bfind (blink m k v) k = some v ∧ (∀ k', k' ≠ k → bfind (blink m k v) k' = bfind m k') ∧
    (blink m k v).size = m.size + 1 ∧ (blink m k v).capacity = m.capacity := by
  have ⟨hw', hc, ho⟩ := wf_modify hw (m' := blink m k v) (f := ((k, v) :: ·)) rfl rfl
    (fun p hp => List.mem_cons.trans (or_iff_right fun e => hp (e ▸ rfl)))
    (List.nodup_cons.mpr ⟨fun h => have ⟨p, hp, e⟩ := List.mem_map.mp h; (find_none_iff m k).mp habs p hp e, hw.nodup _⟩)
    (Nat.add_right_comm ..)
    ((Nat.add_assoc ..).trans ((congrArg _ (Nat.add_sub_cancel' hfree)).trans hw.cap_eq))
  exact ⟨hw', mem_chain_find _ hw' k v (hc ▸ List.mem_cons_self), ho, rfl, rfl⟩

/-- **berase**: the key is gone, every other key is untouched, the slot returns to the free list. -/
theorem erase_spec (m : BMap β) (hw : Wf m) (k : Nat) :
    Wf (berase m k) ∧ bfind (berase m k) k = none ∧ (∀ k', k' ≠ k → bfind (berase m k) k' = bfind m k') ∧
    (berase m k).capacity = m.capacity ∧ (berase m k).size + (if bfind m k = none then 0 else 1) = m.size := by
  unfold berase
  cases hf : bfind m k with
  | none => exact ⟨hw, hf, fun _ _ => rfl, rfl, rfl⟩
  | some x =>
    have hmem := find_some_mem m k x hf
    -- the chain is not empty, so the size counter is positive and `- 1` is exact
    have hs : m.size - 1 + 1 = m.size :=
      Nat.sub_add_cancel (Nat.lt_of_lt_of_le (List.length_pos_of_mem hmem) (chain_length_le hw _))
    obtain ⟨s, t, hst, -, hfl⟩ := split_at_key (hw.nodup _) hmem rfl
    have ⟨hw', hc, ho⟩ := wf_modify hw (k := k)
      (m' := { m with buckets := m.buckets.modify (bhash k) (·.filter (fun p => !(p.1 == k))), free := m.free + 1, size := m.size - 1 })
      rfl rfl
      (fun p hp => by rw [List.mem_filter, and_iff_left (by simpa using hp)])
      ((hw.nodup _).sublist (List.filter_sublist.map _))
      (by rw [hfl, hst]; simp only [List.length_append, List.length_cons]; omega)
      (by rw [← Nat.add_assoc, Nat.add_right_comm, hs, hw.cap_eq])
    exact ⟨hw', (find_none_iff _ k).mpr (hc ▸ fun p hp => by simpa using (List.mem_filter.mp hp).2), ho, rfl, hs⟩

theorem clear_spec (m : BMap β) (hw : Wf m) :
    Wf (bclear m) ∧ (∀ k, bfind (bclear m) k = none) ∧ (bclear m).size = 0 ∧ (bclear m).capacity = m.capacity :=
  have h := wf_of_buckets_empty (m := bclear m) rfl rfl ((Nat.zero_add _).trans ((Nat.add_comm ..).trans hw.cap_eq))
  ⟨h.1, h.2, rfl, rfl⟩

/-- writing through a handle changes exactly that entry of that bank -/
theorem update_spec (m : BMap β) (hw : Wf m) (k : Nat) (f : β → β) :
    Wf (bupdate m k f) ∧ bfind (bupdate m k f) k = (bfind m k).map f ∧
    (∀ k', k' ≠ k → bfind (bupdate m k f) k' = bfind m k') ∧ (bupdate m k f).size = m.size ∧
    (bupdate m k f).capacity = m.capacity := by
  -- the rewritten pair keeps its key, and pairs under other keys stay as they are
  let g (q : Nat × β) := if q.1 == k then (q.1, f q.2) else q
  have hkey : ∀ q, (g q).1 = q.1 := fun q => by unfold g; split <;> rfl
  have hfix : ∀ q, q.1 ≠ k → g q = q := fun q h => if_neg (by simpa using h)
  have ⟨hw', hc, ho⟩ := wf_modify hw (m' := bupdate m k f) (k := k) (f := (·.map g)) rfl rfl
    (fun p hp => ⟨fun h => by
        obtain ⟨q, hq, rfl⟩ := List.mem_map.mp h
        rw [hkey] at hp; rwa [hfix q hp],
      fun h => List.mem_map.mpr ⟨p, h, hfix p hp⟩⟩)
    (by rw [List.map_map]; exact (List.map_congr_left fun q _ => hkey q) ▸ hw.nodup _)
    (congrArg _ (List.length_map _).symm)
    hw.cap_eq
  refine ⟨hw', ?_, ho, rfl, rfl⟩
  cases hf : bfind m k with
  | none =>
    refine (find_none_iff _ k).mpr (hc ▸ fun p hp => ?_)
    obtain ⟨q, hq, rfl⟩ := List.mem_map.mp hp
    rw [hkey]; exact (find_none_iff m k).mp hf q hq
  | some x =>
    exact mem_chain_find _ hw' k (f x) (hc ▸ List.mem_map.mpr ⟨(k, x), find_some_mem m k x hf, if_pos (beq_self_eq_true k)⟩)

/-- **binsert (growing)**: well-formedness is kept, the key is present afterwards with the old value if it was present
    and the new one otherwise, every other key is untouched, and the flag tells which case happened. -/
theorem insert_spec (m : BMap β) (hw : Wf m) (k : Nat) (v : β) :
    Wf (binsert m k v).1 ∧ bfind (binsert m k v).1 k = some ((bfind m k).getD v) ∧
    (∀ k', k' ≠ k → bfind (binsert m k v).1 k' = bfind m k') ∧
    ((binsert m k v).2 = true ↔ bfind m k = none) ∧
    (binsert m k v).1.size = m.size + (if bfind m k = none then 1 else 0) := by
  fun_cases binsert m k v
  case case1 x hf => simp [hw, hf]
  case case2 hf m₁ =>
    -- `m₁`, the map the slot is linked into, has grown by `minimumAllocation` if no slot was free
    have ⟨hw₁, hfind, hsize, hfree⟩ : Wf m₁ ∧ (∀ k, bfind m₁ k = bfind m k) ∧ m₁.size = m.size ∧ 0 < m₁.free := by
      unfold m₁; split
      · have hr := wf_reserve m hw (m.capacity + minimumAllocation)
        have := hr.1.cap_eq; have := hw.cap_eq; have : minimumAllocation = 4 := rfl
        exact ⟨hr.1, hr.2.2.1, hr.2.2.2, by omega⟩
      · exact ⟨hw, fun _ => rfl, rfl, Nat.pos_of_ne_zero ‹_›⟩
    have hl := wf_link m₁ hw₁ k v (by rw [hfind, hf]) hfree
    rw [hf]
    exact ⟨hl.1, hl.2.1, fun k' hne => by rw [hl.2.2.1 k' hne, hfind], iff_of_true rfl rfl, by rw [hl.2.2.2.1, hsize]; rfl⟩

/-- **real-time binsert**: never changes the capacity (no allocation) and fails exactly when the key is absent and
    no reserved slot is free; otherwise it behaves like `binsert`. -/
theorem insertRt_spec (m : BMap β) (hw : Wf m) (k : Nat) (v : β) :
    Wf (binsertRt m k v).1 ∧ (binsertRt m k v).1.capacity = m.capacity ∧
    ((binsertRt m k v).2 = none ↔ (bfind m k = none ∧ m.size = m.capacity)) ∧
    ((binsertRt m k v).2 = none → (binsertRt m k v).1 = m) ∧
    ((binsertRt m k v).2 ≠ none → bfind (binsertRt m k v).1 k = some ((bfind m k).getD v) ∧
      ∀ k', k' ≠ k → bfind (binsertRt m k v).1 k' = bfind m k') := by
  have hcap := hw.cap_eq
  fun_cases binsertRt m k v
  case case1 x hf => simp [hw, hf]
  case case2 hf h0 =>
    rw [hf]
    exact ⟨hw, rfl, iff_of_true rfl ⟨rfl, by rw [← hcap, h0]; rfl⟩, fun _ => rfl, fun h => absurd rfl h⟩
  case case3 hf h0 =>
    have hl := wf_link m hw k v hf (Nat.pos_of_ne_zero h0)
    rw [hf]
    exact ⟨hl.1, hl.2.2.2.2, ⟨nofun, fun h => by omega⟩, nofun, fun _ => ⟨hl.2.1, hl.2.2.1⟩⟩

/-- size never exceeds the reserved capacity -/
theorem size_le_capacity (m : BMap β) (hw : Wf m) : m.size ≤ m.capacity := hw.cap_eq ▸ Nat.le_add_right ..

/-- **iteration visits exactly the present keys**: a pair is produced by begin()/++ iff lookup finds it -/
theorem mem_toList_iff (m : BMap β) (hw : Wf m) (k : Nat) (v : β) : (k, v) ∈ toList m ↔ bfind m k = some v := by
  have hlt : bhash k < m.buckets.length := hw.len ▸ hash_lt k
  rw [find_some_iff hw, chain_mem_buckets m _ hlt, toList, List.mem_flatten]
  refine ⟨fun ⟨c, hc, hk⟩ => ?_, fun h => ⟨_, List.getElem_mem hlt, h⟩⟩
  -- a chain holding `(k, v)` is the one `k` hashes to
  obtain ⟨i, hi, rfl⟩ := List.getElem_of_mem hc
  rw [← chain_mem_buckets m i hi] at hk
  have := hw.hashed i _ hk
  subst this
  rwa [← chain_mem_buckets m _ hi]

/-- **iteration visits every present bank exactly once** -/
theorem toList_keys_nodup (m : BMap β) (hw : Wf m) : ((toList m).map (·.1)).Nodup := by
  unfold toList
  rw [List.map_flatten]
  unfold List.Nodup
  rw [List.pairwise_flatten]
  constructor
  · intro l hl
    obtain ⟨c, hc, rfl⟩ := List.mem_map.mp hl
    obtain ⟨i, hi, rfl⟩ := List.getElem_of_mem hc
    exact chain_mem_buckets m i hi ▸ hw.nodup i
  · rw [List.pairwise_map, List.pairwise_iff_getElem]
    intro i j hi hj hij x hx y hy hxy
    obtain ⟨p, hp, rfl⟩ := List.mem_map.mp hx
    obtain ⟨q, hq, rfl⟩ := List.mem_map.mp hy
    -- equal keys would hash to both `i` and `j`
    rw [← chain_mem_buckets m i hi] at hp; rw [← chain_mem_buckets m j hj] at hq
    exact Nat.ne_of_lt hij ((hw.hashed i p hp).symm.trans (hxy ▸ hw.hashed j q hq))

theorem digits {a b n : Nat} (h : b < n) : (a * n + b) / n = a ∧ (a * n + b) % n = b :=
  (Nat.div_mod_unique (Nat.zero_lt_of_lt h)).mpr ⟨by rw [Nat.mul_comm, Nat.add_comm], h⟩

/-- a key is the number with the digits `perc` (1 bit), `msb` (7 bits), `lsb` (8 bits) -/
theorem keyOf_eq (perc msb lsb : Nat) (hp : perc ≤ 1) : keyOf perc msb lsb = (perc * 128 + msb) * 256 + lsb := by
  rw [Nat.add_mul, Nat.add_comm (perc * 128 * 256), Nat.add_right_comm]
  obtain rfl | rfl := Nat.le_one_iff_eq_zero_or_eq_one.mp hp <;> rfl

/-- bit 15 of a key is the section flag, for 7 bits of MSB and 8 bits of LSB -/
theorem keyOf_section (perc msb lsb : Nat) (hp : perc ≤ 1) (hm : msb < 128) (hl : lsb < 256) :
    keyOf perc msb lsb / percussionTag % 2 = perc := by
  rw [keyOf_eq perc msb lsb hp, percussionTag, ← Nat.div_div_eq_div_mul _ 256 128, (digits hl).1, (digits hm).1,
    Nat.mod_eq_of_lt (Nat.lt_succ_of_le hp)]

/-- **identifiers read back equal those used at creation** -/
theorem bankId_keyOf (perc msb lsb : Nat) (hp : perc ≤ 1) (hm : msb ≤ 127) (hl : lsb ≤ 127) :
    bankId (keyOf perc msb lsb) = (perc, msb, lsb) := by
  have hm : msb < 128 := Nat.lt_succ_of_le hm
  have hl : lsb < 128 := Nat.lt_succ_of_le hl
  have hl' : lsb < 256 := Nat.lt_trans hl (by decide)
  have ⟨hd, hr⟩ := digits (a := perc * 128 + msb) hl'
  have h1 : (if perc = 1 then 1 else 0) = perc := by
    obtain rfl | rfl := Nat.le_one_iff_eq_zero_or_eq_one.mp hp <;> rfl
  rw [bankId, keyOf_section perc msb lsb hp hm hl', h1, keyOf_eq perc msb lsb hp, hd, (digits hm).2,
    ← Nat.mod_mod_of_dvd _ (by decide : 128 ∣ 256), hr, Nat.mod_eq_of_lt hl]

/-- distinct identifiers designate distinct banks -/
theorem keyOf_inj (p m l p' m' l' : Nat) (hp : p ≤ 1) (hm : m ≤ 127) (hl : l ≤ 127) (hp' : p' ≤ 1) (hm' : m' ≤ 127) (hl' : l' ≤ 127)
    (h : keyOf p m l = keyOf p' m' l') : p = p' ∧ m = m' ∧ l = l' := by
  have a := bankId_keyOf p' m' l' hp' hm' hl'
  rwa [← h, bankId_keyOf p m l hp hm hl, Prod.mk.injEq, Prod.mk.injEq] at a

/-- **a bank created through the API reads as 128 blank instruments**, and lookup finds it afterwards -/
theorem getBank_create (s : State) (hw : Wf s) (perc msb lsb flags : Nat) (hp : perc ≤ 1) (hm : msb ≤ 127) (hl : lsb ≤ 127)
    (hflags : flags % 4 = 1) (habs : bfind s (keyOf perc msb lsb) = none) :
    let r := getBank s perc msb lsb flags
    Wf r.1 ∧ r.2.1 = 0 ∧ r.2.2 = some (keyOf perc msb lsb) ∧
      bfind r.1 (keyOf perc msb lsb) = some (List.replicate 128 AInst.blank) ∧
      ∀ idx, idx ≤ 127 → getInstrument r.1 (keyOf perc msb lsb) idx = some AInst.blank := by
  -- valid identifiers and the plain Create flag (bit 0 set, bit 1 clear) lead to the growing `binsert`
  rw [getBank, if_neg (by omega), if_neg (by omega), if_neg (hflags ▸ by decide)]
  have hi := insert_spec s hw (keyOf perc msb lsb) (List.replicate 128 AInst.blank)
  rw [habs] at hi
  refine ⟨hi.1, rfl, rfl, hi.2.1, fun idx hidx => ?_⟩
  rw [getInstrument, if_neg (Nat.not_lt.mpr hidx), hi.2.1]
  exact List.getElem?_replicate_of_lt (Nat.lt_succ_of_le hidx)

/-- **an instrument read back equals the instrument last written to that slot** (other slots and banks untouched) -/
theorem set_get_instrument (s : State) (hw : Wf s) (k idx : Nat) (i : AInst) (b : ABank) (hb : bfind s k = some b)
    (hlen : b.length = 128) (hidx : idx ≤ 127) :
    let r := setInstrument s k idx 0 i
    r.2 = 0 ∧ Wf r.1 ∧ getInstrument r.1 k idx = some i ∧
      (∀ j, j ≠ idx → getInstrument r.1 k j = getInstrument s k j) ∧
      (∀ k' j, k' ≠ k → getInstrument r.1 k' j = getInstrument s k' j) := by
  have hu := update_spec s hw k (fun b => b.set idx i)
  rw [hb] at hu
  fun_cases setInstrument s k idx 0 i
  · omega
  refine ⟨rfl, hu.1, ?_, fun j hj => ?_, fun k' j hk => ?_⟩
  · rw [getInstrument, if_neg (Nat.not_lt.mpr hidx), hu.2.1]
    exact List.getElem?_set_self (hlen ▸ Nat.lt_succ_of_le hidx)
  · rw [getInstrument, getInstrument, hu.2.1, hb]
    exact congrArg (if j > 127 then none else ·) (List.getElem?_set_ne (Ne.symm hj))
  · rw [getInstrument, getInstrument, hu.2.2.1 k' hk]

/-! ## every reachable map is well-formed -/

inductive MapOp (β : Type)
  | reserve (n : Nat)
  | insert (k : Nat) (v : β)
  | insertRt (k : Nat) (v : β)
  | erase (k : Nat)
  | clear
  | update (k : Nat) (f : β → β)

def applyOp (m : BMap β) : MapOp β → BMap β
  | .reserve n => breserve m n
  | .insert k v => (binsert m k v).1
  | .insertRt k v => (binsertRt m k v).1
  | .erase k => berase m k
  | .clear => bclear m
  | .update k f => bupdate m k f

theorem wf_step (m : BMap β) (hw : Wf m) (op : MapOp β) : Wf (applyOp m op) := by
  cases op with
  | reserve n => exact (wf_reserve m hw n).1
  | insert k v => exact (insert_spec m hw k v).1
  | insertRt k v => exact (insertRt_spec m hw k v).1
  | erase k => exact (erase_spec m hw k).1
  | clear => exact (clear_spec m hw).1
  | update k f => exact (update_spec m hw k f).1

/-- **invariant for every operation sequence**: through any sequence of reserve / create / real-time create / remove /
    clear / write operations the map stays well-formed (so all the map laws above apply in every reachable state). -/
theorem wf_run (ops : List (MapOp β)) : ∀ (m : BMap β), Wf m → Wf (ops.foldl applyOp m) := by
  induction ops with
  | nil => intro m h; exact h
  | cons op ops ih => intro m h; exact ih _ (wf_step m h op)

theorem wf_reachable (ops : List (MapOp β)) : Wf (ops.foldl applyOp (bempty : BMap β)) := wf_run ops _ wf_empty

/-! ## non-vacuity: a reachable state with two colliding keys, a removed key and a reused slot -/

def exOps : List (MapOp Nat) :=
  [.reserve 2, .insertRt 0 10, .insertRt 512 20, .insertRt 5 30, .insert 32768 40, .erase 512, .insertRt 1024 50, .update 0 (· + 1)]

example : bhash 0 = bhash 512 ∧ bhash 0 = bhash 1024 ∧ bhash 0 = bhash 32768 := by decide
example : (toList (exOps.foldl applyOp bempty)).map (·.1) = [1024, 32768, 0, 5] := by decide +kernel
example : bfind (exOps.foldl applyOp bempty) 0 = some 11 ∧ bfind (exOps.foldl applyOp bempty) 512 = none ∧
    (exOps.foldl applyOp (bempty : BMap Nat)).capacity = 4 ∧ (exOps.foldl applyOp (bempty : BMap Nat)).size = 4 := by decide +kernel

/-- **bank-file loads keep the sections apart**: whatever the two bank-number bytes of a file hold (0..255 each), the key under
    which `LoadBank` stores the bank carries the percussion tag exactly for the percussive section — a melodic bank can never
    replace a percussion bank (with the unreduced MSB, 0x80 did exactly that: `unmasked_msb_collides`) -/
theorem loaded_key_section (perc msb lsb : Nat) (hp : perc ≤ 1) (hl : lsb < 256) :
    keyOf perc (msb % 128) lsb / percussionTag % 2 = perc :=
  keyOf_section perc (msb % 128) lsb hp (Nat.mod_lt _ (by decide)) hl

theorem unmasked_msb_collides : keyOf 0 128 0 = keyOf 1 0 0 := by decide

/-- … and for bank numbers inside the API's key space (7 bits each) the identifier read back is the one in the file -/
theorem loaded_key_id (perc msb lsb : Nat) (hp : perc ≤ 1) (hm : msb < 128) (hl : lsb < 128) :
    bankId (keyOf perc (msb % 128) lsb) = (perc, msb, lsb) := by
  rw [Nat.mod_eq_of_lt hm]; exact bankId_keyOf perc msb lsb hp (Nat.le_of_lt_succ hm) (Nat.le_of_lt_succ hl)

end Opn.C16
