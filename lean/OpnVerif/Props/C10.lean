/-
  C10 — Programmed pitch = key + bend·range + instrument offset: the exact part (the block / F-number search of
  OPN2::noteOn on dyadic frequencies, and which voices a pitch bend reaches).
-/
import OpnVerif.Model.Pitch
import OpnVerif.Model.Synth

namespace Opn.C10
open Opn Opn.Pitch

/-! ## the model's literals are the regenerated constants -/

theorem thresholds : Gen.pitchT1 = (4095 : Rat) / 4 ∧ Gen.pitchT2 = (8147 : Rat) / 4 := by decide +kernel
theorem octave_consts : Gen.pitchOctMax = 0x3800 ∧ Gen.pitchOctStep = 0x800 := by decide

theorem half_iter (h : Dy) (b : Nat) : (⟨h.n, h.k + b⟩ : Dy).half = ⟨h.n, h.k + (b + 1)⟩ := rfl

theorem geQ_false (h : Dy) (a : Nat) : h.geQ a = false ↔ h.n * 4 < a * 2 ^ h.k := by
  simp only [Dy.geQ, decide_eq_false_iff_not, Nat.not_le]

/-- `loop1_spec`, and: the last round was entered with the octave field below 0x3800 (that, not the fuel, bounds the rounds) -/
theorem loop1_rounds (fuel : Nat) (h : Dy) (o : Nat) :
    ∃ b, b ≤ fuel ∧ loop1 fuel h o = (⟨h.n, h.k + b⟩, o + b * 0x800) ∧
      ((⟨h.n, h.k + b⟩ : Dy).geQ 4095 = false ∨ ¬ (o + b * 0x800 < 0x3800) ∨ b = fuel) ∧
      (0 < b → o + (b - 1) * 0x800 < 0x3800) := by
  fun_induction loop1 fuel h o with
  | case1 h o => exact ⟨0, Nat.le_refl _, rfl, Or.inr (Or.inr rfl), fun hb => absurd hb (Nat.lt_irrefl 0)⟩
  | case2 fuel h o hc ih =>
    obtain ⟨b, hb, he, hx, hr⟩ := ih
    have e1 : h.half.k + b = h.k + (b + 1) := Nat.add_right_comm h.k 1 b
    have e2 : o + 0x800 + b * 0x800 = o + (b + 1) * 0x800 := by omega
    rw [e1, e2] at he hx
    simp only [Bool.and_eq_true, decide_eq_true_eq] at hc
    exact ⟨b + 1, Nat.succ_le_succ hb, he, hx.imp_right (Or.imp_right (congrArg (· + 1))), fun _ => by omega⟩
  | case3 fuel h o hc =>
    refine ⟨0, Nat.zero_le _, rfl, ?_, fun hb => absurd hb (Nat.lt_irrefl 0)⟩
    cases hg : h.geQ 4095
    · exact Or.inl rfl
    · rw [hg] at hc
      exact Or.inr (Or.inl (by simpa using hc))

/-- the octave loop halves `b ≤ fuel` times, adds `b` octave steps, and stops only because the value dropped below
    1023.75, the octave field is full, or the fuel ran out -/
theorem loop1_spec : ∀ (fuel : Nat) (h : Dy) (o : Nat),
    ∃ b, b ≤ fuel ∧ loop1 fuel h o = (⟨h.n, h.k + b⟩, o + b * 0x800) ∧
      ((⟨h.n, h.k + b⟩ : Dy).geQ 4095 = false ∨ ¬ (o + b * 0x800 < 0x3800) ∨ b = fuel)
  | fuel, h, o =>
    let ⟨b, hb, he, hx, _⟩ := loop1_rounds fuel h o
    ⟨b, hb, he, hx⟩

/-- with the real start values (fuel 8, octave 0) the loop runs at most 7 times -/
theorem loop1_real (h : Dy) : ∃ b, b ≤ 7 ∧ loop1 8 h 0 = (⟨h.n, h.k + b⟩, b * 0x800) ∧
    ((⟨h.n, h.k + b⟩ : Dy).geQ 4095 = false ∨ b = 7) := by
  obtain ⟨b, hb, he, hx, hr⟩ := loop1_rounds 8 h 0
  rw [Nat.zero_add] at he hx
  -- the last round started below 0x3800 = 7 · 0x800, so it was the seventh at most: the fuel never runs out
  have hb7 : b ≤ 7 := by omega
  refine ⟨b, hb7, he, ?_⟩
  rcases hx with h1 | h2 | h3
  · exact Or.inl h1
  · exact Or.inr (by omega)
  · omega

/-- the multiplier loop, when it returns, has halved `j` times, counted them, and left a value below 2036.75 -/
theorem loop2_spec : ∀ (fuel : Nat) (h : Dy) (m : Nat) (r : Dy × Nat), loop2 fuel h m = .ok r →
    ∃ j, j < fuel ∧ r = (⟨h.n, h.k + j⟩, m + j) ∧ (⟨h.n, h.k + j⟩ : Dy).geQ 8147 = false
  | fuel, h, m, r => by
    fun_induction loop2 fuel h m with
    | case1 => nofun
    | case2 fuel h m hc ih =>
      intro hr
      obtain ⟨j, hj, he, hx⟩ := ih hr
      have e : h.half.k + j = h.k + (j + 1) := Nat.add_right_comm h.k 1 j
      rw [e, Nat.add_right_comm m 1 j] at he
      rw [e] at hx
      exact ⟨j + 1, Nat.succ_lt_succ hj, he, hx⟩
    | case3 fuel h m hc =>
      exact fun hr => ⟨0, Nat.zero_lt_succ _, (Except.ok.inj hr).symm, Bool.eq_false_iff.2 hc⟩

/-- **termination of the multiplier loop**: a value below 2036.75·2^fuel needs at most `fuel` halvings -/
theorem loop2_terminates : ∀ (fuel : Nat) (h : Dy) (m : Nat), h.n * 4 < 8147 * 2 ^ (h.k + fuel) →
    ∃ r, loop2 (fuel + 1) h m = .ok r
  | 0, h, m, hlt => by
      unfold loop2
      rw [(geQ_false h 8147).2 hlt]
      exact ⟨_, rfl⟩
  | fuel + 1, h, m, hlt => by
      unfold loop2
      split
      · apply loop2_terminates fuel h.half (m + 1)
        rw [show h.half.k + fuel = h.k + (fuel + 1) from Nat.add_right_comm h.k 1 fuel]
        exact hlt
      · exact ⟨_, rfl⟩

/-- exponent bound of IEEE doubles: every finite double is below 2^1024 -/
def maxDoubleExp : Nat := 1024

/-- halvings done beforehand only help: the fuel that is enough from `h` is enough from `h / 2^b` -/
theorem loop2_terminates_halved (F b : Nat) (h : Dy) (hlt : h.n * 4 < 8147 * 2 ^ (h.k + F)) :
    ∃ r, loop2 (F + 1) (⟨h.n, h.k + b⟩ : Dy) 0 = .ok r :=
  loop2_terminates F _ 0 (Nat.lt_of_lt_of_le hlt
    (Nat.mul_le_mul_left _ (Nat.pow_le_pow_right (by decide) (Nat.add_le_add_right (Nat.le_add_right h.k b) F))))

/-- **C02/C10, the frequency search terminates for every finite double** (any n/2^k below 2^1024): no hang. -/
theorem search_total (h : Dy) (hfin : h.n < 2 ^ maxDoubleExp * 2 ^ h.k) : ∃ r, search h = .ok r := by
  obtain ⟨b, hb, he, _⟩ := loop1_real h
  obtain ⟨⟨h2, m⟩, hr⟩ : ∃ r, loop2 fuel2 (⟨h.n, h.k + b⟩ : Dy) 0 = .ok r := by
    apply loop2_terminates_halved 1099 b h
    -- n · 4 < 2^(1024 + k + 2), and 1026 is below the fuel
    rw [← Nat.pow_add] at hfin
    calc h.n * 4 < 2 ^ (maxDoubleExp + h.k) * 2 ^ 2 := Nat.mul_lt_mul_of_pos_right hfin (by decide)
      _ = 2 ^ (maxDoubleExp + h.k + 2) := (Nat.pow_add ..).symm
      _ ≤ 2 ^ (h.k + 1099) := Nat.pow_le_pow_right (by decide) (by unfold maxDoubleExp; omega)
      _ ≤ 8147 * 2 ^ (h.k + 1099) := Nat.le_mul_of_pos_left _ (by decide)
  exact ⟨{ ftone := b * 0x800 + fnumOf h2, mulOffset := m }, by simp only [search, he, hr, bind, Except.bind]⟩

/-- rounding to the nearest F-number: `fnumOf h` is within half a step of `h` (the single IEEE corner value
    0.5 − 2^-54, where `hertz + 0.5` rounds up to 1.0, is excluded here and covered by `fnum_predHalf`) -/
theorem fnum_round (h : Dy) (hp : isPredHalf h = false) :
    fnumOf h * 2 ^ (h.k + 1) ≤ 2 * h.n + 2 ^ h.k ∧ 2 * h.n + 2 ^ h.k < (fnumOf h + 1) * 2 ^ (h.k + 1) := by
  unfold fnumOf
  rw [hp]
  simp only [Bool.false_eq_true, if_false]
  have hpos : 0 < 2 ^ (h.k + 1) := Nat.two_pow_pos _
  constructor
  · exact Nat.div_mul_le_self _ _
  · rw [Nat.add_mul, Nat.one_mul]
    exact Nat.lt_div_mul_add hpos

theorem fnum_predHalf (h : Dy) (hp : isPredHalf h = true) : fnumOf h = 1 ∧ 2 * h.n < 2 ^ h.k := by
  unfold fnumOf
  rw [hp]
  refine ⟨rfl, ?_⟩
  simp only [isPredHalf, beq_iff_eq] at hp
  -- 2n · 2^53 = n · 2^54 = (2^53 − 1) · 2^k < 2^53 · 2^k  (by hand: `omega` runs for minutes on these coefficients)
  apply Nat.lt_of_mul_lt_mul_right (a := 2 ^ 53)
  rw [Nat.mul_comm 2, Nat.mul_assoc, ← Nat.pow_succ', hp, Nat.mul_comm (2 ^ h.k)]
  exact Nat.mul_lt_mul_of_pos_right (by decide) (Nat.two_pow_pos h.k)

theorem fnumOf_lt (h : Dy) (hlow : h.geQ 8147 = false) : fnumOf h < 2048 := by
  rw [geQ_false] at hlow
  cases hp : isPredHalf h
  · have hf := (fnum_round h hp).1
    rw [Nat.pow_succ] at hf
    -- f · (2^k · 2) ≤ 2n + 2^k and 4n < 8147 · 2^k
    exact Nat.lt_of_mul_lt_mul_right (a := 2 ^ h.k * 2) (Nat.lt_of_le_of_lt hf (by omega))
  · rw [(fnum_predHalf h hp).1]
    decide

/-- **C10, inside the chip's native range** (hertz·coef < 2036.75·2^7): the search uses no multiplier offset, the block is
    at most 7, the F-number fits its 11 bits, and block/F-number denote the requested frequency within half an
    F-number step: |fnum·2^block − h| ≤ 2^block / 2. -/
theorem search_spec (h : Dy) (hr : h.n * 4 < 8147 * 2 ^ (h.k + 7)) :
    ∃ b f, search h = .ok { ftone := b * 0x800 + f, mulOffset := 0 } ∧ b ≤ 7 ∧ f < 2048 ∧ f = fnumOf ⟨h.n, h.k + b⟩ ∧
      (isPredHalf ⟨h.n, h.k + b⟩ = false →
        f * 2 ^ (h.k + b + 1) ≤ 2 * h.n + 2 ^ (h.k + b) ∧ 2 * h.n + 2 ^ (h.k + b) < (f + 1) * 2 ^ (h.k + b + 1)) := by
  obtain ⟨b, hb, he, hx⟩ := loop1_real h
  -- after loop 1 the value is below 2036.75: it is below 1023.75, or seven halvings were enough by `hr`
  have hlow : (⟨h.n, h.k + b⟩ : Dy).geQ 8147 = false := by
    rw [geQ_false] at hx ⊢
    rcases hx with h1 | rfl
    · exact Nat.lt_of_lt_of_le h1 (Nat.mul_le_mul_right _ (by decide))
    · exact hr
  have hl2 : loop2 fuel2 (⟨h.n, h.k + b⟩ : Dy) 0 = .ok (⟨h.n, h.k + b⟩, 0) := by
    unfold fuel2 loop2
    rw [hlow]
    rfl
  refine ⟨b, fnumOf ⟨h.n, h.k + b⟩, ?_, hb, fnumOf_lt _ hlow, rfl, fnum_round ⟨h.n, h.k + b⟩⟩
  simp only [search, he, hl2, bind, Except.bind]

/-- the MUL register rewriting keeps the number of operators and writes bytes -/
theorem mulBytes_length : ∀ (m : Nat) (regs : List Nat), (mulBytes m regs).length = regs.length
  | m, regs => by fun_induction mulBytes m regs <;> simp [*]

/-- without a multiplier offset the detune/multiple bytes of the instrument are written unchanged -/
theorem mulBytes_zero : ∀ (regs : List Nat), (∀ r ∈ regs, r < 256) → mulBytes 0 regs = regs
  | [], _ => rfl
  | r :: regs, h => by
      unfold mulBytes
      have hr := h r (by simp)
      simp only [Nat.lt_irrefl, if_false, wrap8]
      rw [mulBytes_zero regs (fun x hx => h x (by simp [hx])), Nat.mod_eq_of_lt hr]

/-! ## non-vacuity -/

-- A4 = 440 Hz on OPN2: hertz·coef = 8.1758·2^(69/12)·39.37 = 17323.3…; a dyadic close to it
example : (search ⟨17323 * 1024 + 337, 10⟩).toOption = some { ftone := 5 * 0x800 + 541, mulOffset := 0 } := by decide +kernel
example : (⟨17323 * 1024 + 337, 10⟩ : Dy).n * 4 < 8147 * 2 ^ (10 + 7) := by decide


/-! ## which voices a pitch-bend message re-pitches (the guard of noteUpdate's Upd_Pitch branch, `Synth.pitchApplies`) -/

/-- **a key that is still down is re-pitched**: its chip-channel user carries no mark (0) or only the sostenuto mark (2) -/
theorem bend_reaches_keydown (u : Synth.User) (h : u.sus = 0 ∨ u.sus = 2) : Synth.pitchApplies (some u) = true := by
  rcases h with h | h <;> simp [Synth.pitchApplies, h]

/-- a voice whose user entry does not exist yet (the note-on in progress) is pitched -/
theorem bend_reaches_fresh : Synth.pitchApplies none = true := rfl

/-- only a released note that the damper pedal holds (mark 1, or 3 together with sostenuto) is left alone -/
theorem bend_skips_pedal_held (u : Synth.User) (h : u.sus = 1 ∨ u.sus = 3) : Synth.pitchApplies (some u) = false := by
  rcases h with h | h <;> simp [Synth.pitchApplies, h]

/-- **pressing the sostenuto pedal never takes a held key out of reach of the wheel**: every user that `markSostenutoNotes`
    marks was key-down (no mark) and is still re-pitched afterwards -/
theorem sostenuto_keeps_bend (midCh : Nat) (cc : Synth.ChipCh) (u : Synth.User) (hu : u ∈ (Synth.markSost midCh cc).users)
    (hk : ∀ v ∈ cc.users, v.sus = 0 ∨ v.sus = 2) : Synth.pitchApplies (some u) = true := by
  unfold Synth.markSost at hu
  simp only [List.mem_map] at hu
  obtain ⟨v, hv, e⟩ := hu
  have hv' := hk v hv
  subst e
  split
  · rename_i hc
    simp only [Bool.and_eq_true, beq_iff_eq] at hc
    simp [Synth.pitchApplies, hc.2]
  · exact bend_reaches_keydown v hv'

end Opn.C10
