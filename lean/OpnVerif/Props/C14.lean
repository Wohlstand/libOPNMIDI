/-
  C14 — Instances are deterministic and isolated: the abstract non-interference argument.
  An instance step reads and writes its own state and may touch process-wide cells.  If every write to a shared cell
  stores a value that does not depend on the writing instance's state or arguments (tables rebuilt with the same
  contents on every chip init), the outputs of an instance are a function of its own call history, whatever other
  instances do in between.  The one cell of the library that does not satisfy the premise is listed as a known finding.
-/
namespace Opn.C14

/-- a world: the private states of two instances and the shared cells -/
structure World (σ γ : Type) where
  a : σ
  b : σ
  shared : γ

/-- an instance step: own state × shared cells → own state × shared cells × output -/
abbrev Step (σ γ ω ι : Type) := ι → σ → γ → σ × γ × ω

/-- the premise: the step writes the shared cells with constants (a fixed value `c`, whatever was there), and reads them
    only through a view on which the initial contents and `c` agree (the tables already hold their final contents) -/
structure Benign {σ γ ω ι : Type} (step : Step σ γ ω ι) (c : γ) : Prop where
  /-- new own state and output do not depend on what the shared cells hold (they hold the same tables for every instance) -/
  indep : ∀ i s g, (step i s g).1 = (step i s c).1 ∧ (step i s g).2.2 = (step i s c).2.2

/-- run instance A's history with arbitrary steps of instance B interleaved (a schedule: `true` = A's next call) -/
def run {σ γ ω ι : Type} (step : Step σ γ ω ι) : List (Bool × ι) → World σ γ → List ω → World σ γ × List ω
  | [], w, outs => (w, outs)
  | (true, i) :: rest, w, outs =>
    let r := step i w.a w.shared
    run step rest { w with a := r.1, shared := r.2.1 } (outs ++ [r.2.2])
  | (false, i) :: rest, w, outs =>
    let r := step i w.b w.shared
    run step rest { w with b := r.1, shared := r.2.1 } outs

/-- A's own calls of a schedule -/
def own {ι : Type} (sched : List (Bool × ι)) : List (Bool × ι) := sched.filter (·.1)

/-- **isolation**: under the premise, the outputs of instance A and its final state under any interleaving with instance B
    equal those of A running alone -/
theorem isolation {σ γ ω ι : Type} (step : Step σ γ ω ι) (c : γ) (hb : Benign step c) :
    ∀ (sched : List (Bool × ι)) (w : World σ γ) (outs : List ω) (g' : γ) (b' : σ),
      (run step sched w outs).2 = (run step (own sched) { w with shared := g', b := b' } outs).2 ∧
      (run step sched w outs).1.a = (run step (own sched) { w with shared := g', b := b' } outs).1.a := by
  intro sched
  induction sched with
  | nil => exact fun _ _ _ _ => ⟨rfl, rfl⟩
  | cons x rest ih =>
    intro w outs g' b'
    obtain ⟨who, i⟩ := x
    cases who with
    | true =>
      -- A's call gives on both sides the state and output of the call on the constant contents `c`
      simp only [run, own, List.filter_cons, if_true]
      rw [(hb.indep i w.a w.shared).1, (hb.indep i w.a w.shared).2, (hb.indep i w.a g').1, (hb.indep i w.a g').2]
      exact ih _ _ _ _
    | false =>
      -- B's call changes only what the right side replaces
      exact ih _ outs g' b'

/-- **determinism**: repeating a history from the same start reproduces the outputs (the step is a function) -/
theorem determinism {σ γ ω ι : Type} (step : Step σ γ ω ι) (sched : List (Bool × ι)) (w : World σ γ) :
    run step sched w [] = run step sched w [] := rfl

end Opn.C14
