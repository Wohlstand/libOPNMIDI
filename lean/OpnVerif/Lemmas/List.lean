/- Facts about lists that are not about any one model. -/

namespace Opn

theorem nodup_snoc {α : Type} {l : List α} {a : α} (h : l.Nodup) (ha : a ∉ l) : (l ++ [a]).Nodup := by
  refine (List.pairwise_middle Ne.symm).2 ?_
  rw [List.append_nil]
  exact List.nodup_cons.2 ⟨ha, h⟩

theorem map_eq_self {α : Type} {g : α → α} {l : List α} (h : ∀ x ∈ l, g x = x) : l.map g = l :=
  (List.map_congr_left h).trans (List.map_id' l)

theorem length_flatMap_of_const {α β : Type} {g : α → List β} {k : Nat} (l : List α) (h : ∀ x ∈ l, (g x).length = k) :
    (l.flatMap g).length = l.length * k := by
  rw [List.length_flatMap, List.map_congr_left h, List.map_const', List.sum_replicate_nat]

/-- In a list with distinct keys the element under key `k` has no other element with that key before or after it, so
    filtering `k` out removes that element and nothing else. -/
theorem split_at_key {α κ : Type} [BEq κ] [LawfulBEq κ] {key : α → κ} {l : List α} (hnd : (l.map key).Nodup) {a : α} (h : a ∈ l)
    {k : κ} (hk : key a = k) :
    ∃ s t, l = s ++ a :: t ∧ (∀ x ∈ s ++ t, key x ≠ k) ∧ l.filter (fun x => !(key x == k)) = s ++ t := by
  obtain ⟨s, t, rfl⟩ := List.append_of_mem h
  -- move `a` to the front: its key is not among the keys of the rest
  have hne : ∀ x ∈ s ++ t, key x ≠ k := fun x hx e =>
    (List.nodup_cons.mp ((List.perm_middle.map key).nodup hnd)).1 (List.mem_map.mpr ⟨x, hx, e.trans hk.symm⟩)
  refine ⟨s, t, rfl, hne, ?_⟩
  rw [List.filter_append, List.filter_cons_of_neg (by simp [hk]), ← List.filter_append,
    List.filter_eq_self.mpr fun x hx => by simpa using hne x hx]

end Opn
