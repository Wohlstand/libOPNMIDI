/-
  Lemmas for the WOPN/OPNI model (core Lean only).
  Loader: every function answers (no `Fault`) on every byte string, and reads back what the saver stores.
  Saver: each stage either stores its chunk of bytes or stops short (`Stores`); chunks of stages run in sequence concatenate.
-/
import OpnVerif.Model.Wopn
import OpnVerif.Lemmas.List
namespace Opn.Wopn
open Opn

/-- `l` begins with `k` elements and at least `m` more follow; spelt out as nested `∃` so that one `obtain` names them all -/
def HasPrefix {α : Type} : Nat → Nat → List α → Prop
  | 0, m, l => m ≤ l.length
  | k + 1, m, l => ∃ a t, l = a :: t ∧ HasPrefix k m t

theorem hasPrefix {α : Type} : ∀ (k m : Nat) (l : List α), k + m ≤ l.length → HasPrefix k m l
  | 0, m, _, h => Nat.zero_add m ▸ h
  | k + 1, _, [], h => absurd h (by rw [Nat.add_right_comm]; exact Nat.not_succ_le_zero _)
  | k + 1, m, a :: t, h => ⟨a, t, rfl, hasPrefix k m t (by rw [Nat.add_right_comm] at h; exact Nat.le_of_succ_le_succ h)⟩

@[simp] theorem zeros_length (n : Nat) : (zeros n).length = n := by simp [zeros]

theorem rd_ok (site : String) (n : Nat) (cur : Bytes) (h : n ≤ cur.length) :
    rd site n cur = .ok (cur.take n, cur.drop n) := by simp [rd, h]

theorem rd_append (site : String) {n : Nat} {bs : Bytes} (rest : Bytes) (h : bs.length = n) :
    rd site n (bs ++ rest) = .ok (bs, rest) := by
  rw [rd_ok _ _ _ (by rw [List.length_append, h]; exact Nat.le_add_right n _), List.take_left' h, List.drop_left' h]

theorem strncpy_length (n : Nat) (s : Bytes) : (strncpy n s).length = n := by
  fun_induction strncpy n s <;> simp [*]

theorem strncpy_zeros (n m : Nat) : strncpy n (zeros m) = zeros n := by
  cases n <;> cases m <;> simp [strncpy, zeros, List.replicate_succ]

theorem strncpy_idem (n : Nat) (s : Bytes) : strncpy n (strncpy n s) = strncpy n s := by
  fun_induction strncpy n s <;> simp [strncpy, strncpy_zeros, *]

theorem strncpy_take (n : Nat) (s : Bytes) : strncpy n (s.take n) = strncpy n s := by
  fun_induction strncpy n s <;> simp [strncpy, *]

theorem strncpy_bytes : ∀ (n : Nat) (s : Bytes), (∀ x ∈ s, x < 256) → ∀ x ∈ strncpy n s, x < 256 := by
  intro n s
  fun_induction strncpy n s <;> intro h x hx
  case case1 => cases hx
  case case4 c cs _ ih =>
    obtain _ | ⟨_, hx⟩ := hx
    · exact h c List.mem_cons_self
    · exact ih (fun y hy => h y (List.mem_cons_of_mem c hy)) x hx
  all_goals rw [List.eq_of_mem_replicate hx]; decide

theorem s16_roundtrip (n : Int) (h1 : -32768 ≤ n) (h2 : n ≤ 32767) :
    s16be ((n % 65536).toNat / 256) ((n % 65536).toNat % 256) = n := by
  unfold s16be
  split <;> omega

theorem u16be_roundtrip (n : Nat) (h : n < 65536) : 256 * ((n / 256) % 256) + n % 256 = n := by
  rw [Nat.mod_eq_of_lt (Nat.div_lt_of_lt_mul (k := 256) h), Nat.div_add_mod]

theorem putS16be_bytes (n : Int) : ∀ x ∈ putS16be n, x < 256 := by
  intro x hx
  simp only [putS16be, List.mem_cons, List.mem_nil_iff, or_false] at hx
  rcases hx with h | h <;> omega

/-! ## shape (what the C struct types guarantee) -/

/-- the field ranges the C types of WOPNInstrument impose -/
structure Inst.Shape (i : Inst) : Prop where
  name_len : i.name.length = 32
  ops_len : i.ops.length = 28
  name_b : ∀ x ∈ i.name, x < 256
  ops_b : ∀ x ∈ i.ops, x < 256
  key_b : i.percKey < 256
  fbalg_b : i.fbalg < 256
  lfo_b : i.lfosens < 256
  flags_b : i.flags < 256
  on_b : i.delayOn < 65536
  off_b : i.delayOff < 65536
  no_lo : -32768 ≤ i.noteOffset
  no_hi : i.noteOffset ≤ 32767
  vel_lo : -128 ≤ i.velOffset
  vel_hi : i.velOffset ≤ 127

/-- what load∘save does to an instrument (format version `v` ≤ 2; `d` = record carries delays) -/
def canonInst (v : Nat) (d : Bool) (i : Inst) : Inst :=
  let del := v ≥ 2 && d
  let blank := i.flags % 4 / 2 == 1
  let on := if del then (if blank then 0 else i.delayOn) else 0
  let off := if del then (if blank then 0 else i.delayOff) else 0
  { i with name := (strncpy 32 i.name).set 31 0, velOffset := 0, delayOn := on, delayOff := off,
           flags := if del && on == 0 && off == 0 then 2 else 0 }

theorem writeInst_length (v : Nat) (d : Bool) (i : Inst) (hs : i.ops.length = 28) :
    (writeInst v d i).length = if v ≥ 2 && d then 69 else 65 := by
  unfold writeInst
  simp only [List.length_append, strncpy_length, putS16be, hs, List.length_cons, List.length_nil]
  split
  · split <;> simp [putU16be]
  · simp

theorem instSize_cases (v : Nat) : instSize v = if v ≥ 2 && true then 69 else 65 := by
  simp only [Bool.and_true, decide_eq_true_eq]
  rfl

/-- `n` banks of 128 records of `sz` bytes, as the instrument sections count them and as the size checks do -/
theorem mul_128_mul (n sz : Nat) : n * 128 * sz = sz * 128 * n := by
  rw [Nat.mul_comm n, Nat.mul_comm, Nat.mul_assoc]

theorem parseInst_ok (v : Nat) (d : Bool) (r : Bytes) (h : (if v ≥ 2 && d then 69 else 65) ≤ r.length) :
    ∃ i, parseInst v d r = .ok i := by
  have h65 : 65 ≤ r.length := by split at h <;> omega
  obtain ⟨hi, _, e, lo, _, rfl, key, _, rfl, fb, _, rfl, lfo, rest, rfl, (hr : r.length - 37 ≤ rest.length)⟩ :=
    hasPrefix 5 (r.length - 37) (r.drop 32) (by rw [List.length_drop]; omega)
  unfold parseInst
  rw [e]
  simp only
  rw [if_neg (by omega)]
  by_cases hd : (v ≥ 2 && d) = true
  · rw [if_pos hd] at h ⊢
    obtain ⟨a, _, e2, b, _, rfl, c, _, rfl, x, _, rfl, -⟩ := hasPrefix 4 0 (rest.drop 28) (by rw [List.length_drop]; omega)
    rw [e2]
    exact ⟨_, rfl⟩
  · rw [if_neg hd]
    exact ⟨_, rfl⟩

theorem parse_write_inst (v : Nat) (d : Bool) (i : Inst) (hs : i.Shape) (hv : v < 3) :
    parseInst v d (writeInst v d i) = .ok (canonInst v d i) := by
  have hn := strncpy_length 32 i.name
  unfold parseInst writeInst canonInst
  rw [List.append_assoc, List.append_assoc, List.append_assoc, List.take_left' hn, List.drop_left' hn]
  simp only [putS16be, List.cons_append, List.nil_append, strncpy_idem]
  rw [if_neg (by rw [List.length_append, hs.ops_len]; omega)]
  simp only [List.take_left' hs.ops_len, List.drop_left' hs.ops_len, s16_roundtrip _ hs.no_lo hs.no_hi,
    decide_eq_true hv, Bool.true_and]
  -- both sides now branch on the same two tests (delays carried, blank flag)
  by_cases hdel : (v ≥ 2 && d) = true
  · by_cases hb : (i.flags % 4 / 2 == 1) = true
    · simp [hb, hdel]
    · simp [hb, hdel, putU16be, u16be_roundtrip _ hs.on_b, u16be_roundtrip _ hs.off_b]
  · simp [hdel]

theorem readInsts_ok (v sz : Nat) (hsz : instSize v ≤ sz) (k : Nat) (cur : Bytes) (h : k * sz ≤ cur.length) :
    ∃ xs, readInsts v sz k cur = .ok (xs, cur.drop (k * sz)) ∧ xs.length = k := by
  fun_induction readInsts v sz k cur
  case case1 => exact ⟨[], by rw [Nat.zero_mul, List.drop_zero], rfl⟩
  case case2 k cur ih =>
    rw [Nat.succ_mul] at h
    have h1 : sz ≤ cur.length := Nat.le_of_add_left_le h
    obtain ⟨i, hi⟩ := parseInst_ok v true (cur.take sz) (by
      rw [List.length_take, Nat.min_eq_left h1, ← instSize_cases]
      exact hsz)
    obtain ⟨xs, hx, hl⟩ := ih (cur.drop sz) (by rw [List.length_drop]; exact Nat.le_sub_of_add_le h)
    refine ⟨i :: xs, ?_, by rw [List.length_cons, hl]⟩
    simp only [rd_ok _ _ _ h1, bind, Except.bind, hi, hx, List.drop_drop, Nat.succ_mul, Nat.add_comm]

theorem readInsts_write (v : Nat) (hv : v < 3) : ∀ (is : List Inst) (rest : Bytes), (∀ i ∈ is, i.Shape) →
    readInsts v (instSize v) is.length (is.flatMap (writeInst v true) ++ rest) =
      .ok (is.map (canonInst v true), rest)
  | [], rest, _ => by simp [readInsts]
  | i :: is, rest, h => by
      have hs := h i List.mem_cons_self
      have hl := (writeInst_length v true i hs.ops_len).trans (instSize_cases v).symm
      have ih := readInsts_write v hv is rest fun j hj => h j (List.mem_cons_of_mem i hj)
      simp only [List.flatMap_cons, List.length_cons, readInsts, List.append_assoc, rd_append _ _ hl, bind, Except.bind,
        parse_write_inst v true i hs hv, ih, List.map_cons]

theorem readMetas_ok (k : Nat) (cur : Bytes) : ∃ r, readMetas k cur = .ok r := by
  fun_induction readMetas k cur
  case case3 k cur h ih =>
    obtain ⟨lsb, _, e, msb, _, rfl, -⟩ := hasPrefix 2 0 ((cur.take 34).drop 32) (by
      rw [List.length_drop, List.length_take]; omega)
    obtain ⟨r, hr⟩ := ih (cur.drop 34)
    simp only [rd_ok _ _ _ (Nat.le_of_not_lt h), bind, Except.bind, e, hr]
    cases r <;> exact ⟨_, rfl⟩
  all_goals exact ⟨_, rfl⟩

/-- the bytes the saver stores for one bank's meta-data -/
def metaBytes (b : Bank) : Bytes := b.name.take 32 ++ [b.lsb, b.msb]

structure Bank.Shape (b : Bank) : Prop where
  name_len : b.name.length = 33
  name_b : ∀ x ∈ b.name, x < 256
  lsb_b : b.lsb < 256
  msb_b : b.msb < 256
  ins_len : b.ins.length = 128
  ins_s : ∀ i ∈ b.ins, i.Shape

theorem metaBytes_length (b : Bank) (h : b.name.length = 33) : (metaBytes b).length = 34 := by
  simp [metaBytes, h]

/-- what the loader makes of the meta-data entry `metaBytes b` -/
def metaOf (b : Bank) : Bytes × Nat × Nat := (strncpy 32 b.name ++ [0], b.lsb, b.msb)

theorem readMetas_write : ∀ (bs : List Bank) (rest : Bytes), (∀ b ∈ bs, b.Shape) →
    readMetas bs.length (bs.flatMap metaBytes ++ rest) = .ok (some (bs.map metaOf, rest))
  | [], rest, _ => by simp [readMetas]
  | b :: bs, rest, h => by
      have hs := h b List.mem_cons_self
      have hl := metaBytes_length b hs.name_len
      have ih := readMetas_write bs rest fun j hj => h j (List.mem_cons_of_mem b hj)
      have ht : (b.name.take 32).length = 32 := by simp [hs.name_len]
      simp only [List.flatMap_cons, List.length_cons, readMetas, List.append_assoc, List.length_append, hl,
        if_neg (Nat.not_lt.mpr (Nat.le_add_right 34 _)), rd_append _ _ hl, bind, Except.bind]
      simp only [metaBytes, List.drop_left' ht, List.take_left' ht, ih, List.map_cons, strncpy_take, metaOf]

/-! ## the bank loader answers on every byte string -/

theorem not_error {α : Type} {x : Except Fault α} {e : Fault} (h : ∃ r, x = .ok r) : x ≠ .error e := by
  obtain ⟨r, rfl⟩ := h; nofun

theorem readVersion_cases (m1 m2 b : Bytes) :
    (∃ p, readVersion m1 m2 b = .ok (.ok p)) ∨
    ∃ c, readVersion m1 m2 b = .ok (.err c) ∧
      (c = Gen.wopnErrUnexpectedEnding ∨ c = Gen.wopnErrBadMagic ∨ c = Gen.wopnErrNewerVersion) := by
  fun_cases readVersion m1 m2 b
  case case2 h _ hx => rw [rd_ok _ _ _ (Nat.le_of_not_lt h)] at hx; cases hx
  case case8 cur hc hno _ _ =>
    obtain ⟨a, _, rfl, c, rest, rfl, -⟩ := hasPrefix 2 0 cur (Nat.le_of_not_lt hc)
    exact (hno a c rest rfl).elim
  all_goals simp

theorem readMetasBoth_ok (v cm cp : Nat) (cur : Bytes) : ∃ r, readMetasBoth v cm cp cur = .ok r := by
  fun_cases readMetasBoth v cm cp cur
  case case1 hx | case3 hx => exact absurd hx (not_error (readMetas_ok ..))
  all_goals exact ⟨_, rfl⟩

theorem readSections_ok (v cm cp : Nat) (cur : Bytes) : ∃ r, readSections v cm cp cur = .ok r := by
  fun_cases readSections v cm cp cur
  case case2 h _ hx | case4 h _ hx =>
    obtain ⟨xs, hr, -⟩ := readInsts_ok v _ (Nat.le_refl _) _ _ (mul_128_mul .. ▸ Nat.le_of_not_lt h)
    exact absurd hx (not_error ⟨_, hr⟩)
  all_goals exact ⟨_, rfl⟩

theorem loadBankBody_cases (v : Nat) (cur : Bytes) :
    (∃ f, loadBankBody v cur = .ok (.ok f)) ∨ loadBankBody v cur = .ok (.err Gen.wopnErrUnexpectedEnding) := by
  fun_cases loadBankBody v cur
  case case2 hx _ => exact absurd hx (not_error (readMetasBoth_ok ..))
  case case4 hx _ => exact absurd hx (not_error (readSections_ok ..))
  case case6 => exact .inl ⟨_, rfl⟩
  case case7 h hno =>
    obtain ⟨h0, _, rfl, h1, _, rfl, h2, _, rfl, h3, _, rfl, h4, cur, rfl, -⟩ := hasPrefix 5 0 cur (Nat.le_of_not_lt h)
    exact (hno _ _ _ _ _ _ rfl).elim
  all_goals exact .inr rfl

def St.w : St → W
  | .go w => w
  | .short w => w

/-- the stage does not fault and keeps `stored + remaining = destination length` -/
def Good (n : Nat) (r : Except Fault St) : Prop := ∃ st, r = .ok st ∧ st.w.out.length + st.w.rem = n

theorem put_ok (site : String) (w : W) (bs : Bytes) (h : bs.length ≤ w.rem) :
    put site w bs = .ok { out := w.out ++ bs, rem := w.rem - bs.length } := by simp [put, h]

theorem writeInsts_ok (v : Nat) (is : List Inst) (w : W) (h : (is.flatMap (writeInst v true)).length ≤ w.rem) :
    writeInsts v w is = .ok { out := w.out ++ is.flatMap (writeInst v true),
                              rem := w.rem - (is.flatMap (writeInst v true)).length } := by
  fun_induction writeInsts v w is
  case case1 => simp
  case case2 w i is ih =>
    rw [List.flatMap_cons, List.length_append] at h
    rw [put_ok _ _ _ (Nat.le_of_add_right_le h)]
    show writeInsts v _ is = _
    -- `by exact` delays the proof term until `ih`'s first argument is known (a bare term is unified against a metavariable: 2.5× the cost)
    rw [ih _ (by exact Nat.le_sub_of_add_le' h)]
    simp only [List.flatMap_cons, List.append_assoc, List.length_append, Nat.sub_sub]

/-- What every save stage does, in the terms of the C code: it is given the bytes `bs` to store.  If they fit in what remains
    of the destination it stores them all and goes on; if not it returns WOPN_ERR_UNEXPECTED_ENDING, having stored only
    inside the destination (`stored + remaining` is unchanged).  It never faults. -/
structure Stores (s : W → Except Fault St) (bs : Bytes) : Prop where
  fits : ∀ w, bs.length ≤ w.rem → s w = .ok (.go { out := w.out ++ bs, rem := w.rem - bs.length })
  short : ∀ w, w.rem < bs.length → ∃ w', s w = .ok (.short w') ∧ w'.out.length + w'.rem = w.out.length + w.rem

theorem Stores.go : Stores (fun w => .ok (.go w)) [] :=
  ⟨fun w _ => by simp, fun _ h => absurd h (Nat.not_lt_zero _)⟩

theorem Stores.congr {s s' : W → Except Fault St} {bs : Bytes} (h : ∀ w, s w = s' w) (hs : Stores s' bs) : Stores s bs :=
  (funext h : s = s') ▸ hs

theorem stored_length (w : W) (bs : Bytes) (h : bs.length ≤ w.rem) :
    (w.out ++ bs).length + (w.rem - bs.length) = w.out.length + w.rem := by
  rw [List.length_append, Nat.add_assoc, Nat.add_sub_cancel' h]

/-- stages in sequence store the concatenation of their chunks -/
theorem Stores.andThen {s k : W → Except Fault St} {bs rest : Bytes} (hs : Stores s bs) (hk : Stores k rest) :
    Stores (fun w => andThen (s w) k) (bs ++ rest) := by
  constructor
  · intro w h
    rw [List.length_append] at h
    rw [hs.fits w (Nat.le_of_add_right_le h)]
    show k _ = _
    rw [hk.fits _ (Nat.le_sub_of_add_le' h), List.append_assoc, List.length_append, Nat.sub_sub]
  · intro w h
    rw [List.length_append] at h
    by_cases h1 : bs.length ≤ w.rem
    · rw [hs.fits w h1]
      obtain ⟨w', e, hw'⟩ := hk.short { out := w.out ++ bs, rem := w.rem - bs.length } (Nat.sub_lt_left_of_lt_add h1 h)
      exact ⟨w', e, hw'.trans (stored_length w bs h1)⟩
    · obtain ⟨w', e, hw'⟩ := hs.short w (Nat.lt_of_not_le h1)
      exact ⟨w', by rw [e]; rfl, hw'⟩

/-- the step all stages are made of, as the C code has it: a length check, a writer `p` (`put`, `writeInsts`), the rest `k` -/
def guarded (n : Nat) (p : W → Except Fault W) (k : W → Except Fault St) (w : W) : Except Fault St :=
  if w.rem < n then .ok (.short w) else
    match p w with
    | .error e => .error e
    | .ok w => k w

/-- a checked writer that stores `bs` when it fits is a stage of its own; `k` then follows it as in `andThen` -/
theorem Stores.guard {p : W → Except Fault W} {k : W → Except Fault St} {n : Nat} {bs rest : Bytes} (hn : bs.length = n)
    (hp : ∀ w, bs.length ≤ w.rem → p w = .ok { out := w.out ++ bs, rem := w.rem - bs.length }) (hk : Stores k rest) :
    Stores (guarded n p k) (bs ++ rest) := by
  subst hn
  have h1 : Stores (guarded bs.length p fun w => .ok (.go w)) bs :=
    ⟨fun w h => by rw [guarded, if_neg (Nat.not_lt.mpr h), hp w h], fun w h => ⟨w, by rw [guarded, if_pos h], rfl⟩⟩
  refine .congr (fun w => ?_) (h1.andThen hk)
  unfold guarded
  split
  · rfl
  · cases p w <;> rfl

theorem Stores.put (site : String) {k : W → Except Fault St} {n : Nat} {bs rest : Bytes} (hn : bs.length = n)
    (hk : Stores k rest) : Stores (guarded n (put site · bs) k) (bs ++ rest) :=
  .guard hn (put_ok site · bs) hk

theorem writeHead_stores (m1 m2 : Bytes) (h1 : m1.length = 11) (h2 : m2.length = 11) (v : Nat) :
    Stores (writeHead m1 m2 v) (if v > 1 then m2 ++ putU16le v else m1) := by
  unfold writeHead
  by_cases hv : v > 1
  · simp only [hv, if_true]
    exact .put _ h2 (.put _ rfl .go)
  · simp only [hv, if_false]
    have S := Stores.put "magic" h1 .go
    rwa [List.append_nil] at S

theorem writeCounts_stores (f : WFile) (v nm np : Nat) :
    Stores (writeCounts f v nm np)
      (putU16be nm ++ (putU16be np ++ [(f.lfoFreq % 16) + (if v ≥ 2 then (f.chipType % 2) * 16 else 0)])) :=
  .put _ rfl (.put _ rfl (.put _ rfl .go))

theorem writeMetas_stores : ∀ (bs : List Bank), (∀ b ∈ bs, b.name.length = 33) →
    Stores (fun w => writeMetas w bs) (bs.flatMap metaBytes)
  | [], _ => .go
  | b :: bs, h => by
      refine .congr (fun w => ?_) (.put "bank meta" (metaBytes_length b (h b List.mem_cons_self))
        (writeMetas_stores bs fun j hj => h j (List.mem_cons_of_mem b hj)))
      rw [writeMetas]
      simp only [metaBytes, guarded]
      split
      · rfl
      · cases put "bank meta" w _ <;> rfl

theorem writeMetasBoth_stores (v : Nat) (mel per : List Bank) (hm : ∀ b ∈ mel, b.name.length = 33)
    (hp : ∀ b ∈ per, b.name.length = 33) :
    Stores (writeMetasBoth v mel per) (if v ≥ 2 then mel.flatMap metaBytes ++ per.flatMap metaBytes else []) := by
  unfold writeMetasBoth
  by_cases hv : v ≥ 2
  · simp only [hv, if_true]
    exact (writeMetas_stores mel hm).andThen (writeMetas_stores per hp)
  · simp only [hv, if_false]
    exact .go

structure WFile.Shape (f : WFile) : Prop where
  mel_pos : 1 ≤ f.melodic.length
  mel_lt : f.melodic.length < 65536
  per_pos : 1 ≤ f.percussive.length
  per_lt : f.percussive.length < 65536
  mel_s : ∀ b ∈ f.melodic, b.Shape
  per_s : ∀ b ∈ f.percussive, b.Shape

def allInsts (bs : List Bank) : List Inst := bs.flatMap (·.ins)

/-- the bytes a successful WOPN_SaveBankToMem stores (format version 1 or 2) -/
def image (f : WFile) (v : Nat) : Bytes :=
  (if v > 1 then Gen.wopnMagic2 ++ putU16le v else Gen.wopnMagic1) ++
  (putU16be f.melodic.length ++ (putU16be f.percussive.length ++
  ([(f.lfoFreq % 16) + (if v ≥ 2 then (f.chipType % 2) * 16 else 0)] ++
  ((if v ≥ 2 then f.melodic.flatMap metaBytes ++ f.percussive.flatMap metaBytes else []) ++
  ((allInsts f.melodic).flatMap (writeInst v true) ++ (allInsts f.percussive).flatMap (writeInst v true))))))

def canonBank (v : Nat) (b : Bank) : Bank :=
  { name := if v ≥ 2 then strncpy 32 b.name ++ [0] else zeros 33,
    lsb := if v ≥ 2 then b.lsb else 0, msb := if v ≥ 2 then b.msb else 0,
    ins := b.ins.map (canonInst v true) }

/-- what load∘save does to a bank file -/
def canonFile (v : Nat) (f : WFile) : WFile :=
  { version := v, lfoFreq := f.lfoFreq % 16, chipType := if v ≥ 2 then f.chipType % 2 else 0, volumeModel := 0,
    melodic := f.melodic.map (canonBank v), percussive := f.percussive.map (canonBank v) }

theorem allInsts_shape {bs : List Bank} (h : ∀ b ∈ bs, b.Shape) : ∀ i ∈ allInsts bs, i.Shape := by
  intro i hi
  obtain ⟨b, hb, hib⟩ := List.mem_flatMap.mp hi
  exact (h b hb).ins_s i hib

theorem allInsts_length (bs : List Bank) (h : ∀ b ∈ bs, b.ins.length = 128) : (allInsts bs).length = bs.length * 128 :=
  length_flatMap_of_const bs h

/-- an instrument section takes as many bytes as `readSections` and `writeSections` check for -/
theorem section_length (v : Nat) (bs : List Bank) (h : ∀ b ∈ bs, b.Shape) :
    ((allInsts bs).flatMap (writeInst v true)).length = (if v ≥ 2 then 69 else 65) * 128 * bs.length := by
  rw [length_flatMap_of_const _ fun i hi => writeInst_length v true i (allInsts_shape h i hi).ops_len, ← instSize_cases,
    allInsts_length bs fun b hb => (h b hb).ins_len, mul_128_mul]
  rfl

theorem writeSections_stores (v : Nat) (mel per : List Bank) (hm : ∀ b ∈ mel, b.Shape) (hp : ∀ b ∈ per, b.Shape) :
    Stores (writeSections v mel per)
      ((allInsts mel).flatMap (writeInst v true) ++ (allInsts per).flatMap (writeInst v true)) := by
  have S := Stores.guard (section_length v mel hm) (writeInsts_ok v _)
    (.guard (section_length v per hp) (writeInsts_ok v _) .go)
  rwa [List.append_nil] at S

theorem applyMetas_nil (bs : List Bank) : applyMetas bs [] = bs := by
  cases bs <;> rfl

theorem applyMetas_map (z : Bank) (m : Bank → Bytes × Nat × Nat) : ∀ (bs : List Bank),
    applyMetas (List.replicate bs.length z) (bs.map m) =
      bs.map fun b => { z with name := (m b).1, lsb := (m b).2.1, msb := (m b).2.2 }
  | [] => rfl
  | b :: bs => by
      rw [List.length_cons, List.replicate_succ, List.map_cons, List.map_cons, ← applyMetas_map z m bs]
      rfl

theorem fillBanks_map (g : Inst → Inst) (z : Bank → Bank) : ∀ (bs : List Bank), (∀ b ∈ bs, b.ins.length = 128) →
    fillBanks (bs.map z) ((allInsts bs).map g) = bs.map fun b => { z b with ins := b.ins.map g }
  | [], _ => rfl
  | b :: bs, h => by
      have hb : (b.ins.map g).length = 128 := by rw [List.length_map, h b List.mem_cons_self]
      have ih := fillBanks_map g z bs fun j hj => h j (List.mem_cons_of_mem b hj)
      simp only [allInsts] at ih
      simp only [List.map_cons, fillBanks, allInsts, List.flatMap_cons, List.map_append, List.take_left' hb,
        List.drop_left' hb, ih]

end Opn.Wopn
