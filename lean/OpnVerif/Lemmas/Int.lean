/- Integer arithmetic of the C++ the models share: truncating division and the fixed-width casts. -/
import OpnVerif.Model.Basic

namespace Opn

theorem tdiv_of_neg (x c : Int) (h : x < 0) : Int.tdiv x c = -((-x) / c) := by
  rw [← Int.tdiv_eq_ediv_of_nonneg (by omega : 0 ≤ -x), Int.neg_tdiv, Int.neg_neg]

/-- No sign condition is needed: core's `Int.le_tdiv_of_mul_le` is the lower half, and this is that lemma for `-x`. -/
theorem tdiv_le_of_le_mul {x U c : Int} (hc : 0 < c) (h : x ≤ U * c) : Int.tdiv x c ≤ U := by
  have hneg : -U ≤ Int.tdiv (-x) c := Int.le_tdiv_of_mul_le hc (by rw [Int.neg_mul]; omega)
  rw [Int.neg_tdiv] at hneg
  omega

theorem tdiv_bounds {x L U c : Int} (hc : 0 < c) (hL : L * c ≤ x) (hU : x ≤ U * c) : L ≤ Int.tdiv x c ∧ Int.tdiv x c ≤ U :=
  ⟨Int.le_tdiv_of_mul_le hc hL, tdiv_le_of_le_mul hc hU⟩

theorem ofSigned_toSigned (bits n : Nat) : ofSigned bits (toSigned bits n) = n % 2 ^ bits := by
  unfold ofSigned toSigned
  have hm : ((n % 2 ^ bits : Nat) : Int) % ((2 ^ bits : Nat) : Int) = (n % 2 ^ bits : Nat) := by
    rw [← Int.natCast_emod, Nat.mod_mod]
  simp only
  split
  · rw [Int.sub_emod_right, hm, Int.toNat_natCast]
  · rw [hm, Int.toNat_natCast]

theorem ofSigned_of_lt (bits : Nat) (i : Int) (h0 : 0 ≤ i) (h1 : i < (2 ^ bits : Nat)) : ofSigned bits i = i.toNat := by
  unfold ofSigned
  rw [Int.emod_eq_of_lt h0 h1]

end Opn
