/-
  What operations on the user list of a chip channel do (model: Model/Synth.lean).  The location of a user is written
  `(u.midCh, u.key)`, as in I3 of Spec/Inv.lean.
-/
import OpnVerif.Model.Synth

namespace Opn.Synth

theorem User.isLoc_iff (u : User) (m k : Nat) : u.isLoc m k = true ↔ u.midCh = m ∧ u.key = k := by
  simp only [User.isLoc, Bool.and_eq_true, beq_iff_eq]

theorem map_keeps_locs (g : User → User) (hg : ∀ u, (g u).midCh = u.midCh ∧ (g u).key = u.key) (us : List User) :
    (us.map g).map (fun u => (u.midCh, u.key)) = us.map fun u => (u.midCh, u.key) := by
  rw [List.map_map]
  exact List.map_congr_left fun u _ => Prod.ext (hg u).1 (hg u).2

/-- key released without the pedal, its user found: the user goes unless sostenuto (bit 2) holds it -/
theorem offVoice_key_found {cc : ChipCh} {m k : Nat} {u : User} (hf : cc.users.find? (·.isLoc m k) = some u) :
    offVoice false cc m k =
      if u.sus / 2 % 2 = 0 then (eraseUser cc m k, (eraseUser cc m k).users.isEmpty) else (cc, false) := by
  by_cases hs : u.sus / 2 % 2 = 0 <;> simp [offVoice, hf, hs]

/-- key released under the pedal, its user listed: the user is marked pedal-held (bit 1) -/
theorem offVoice_pedal_present {cc : ChipCh} {m k : Nat} (h : cc.users.any (·.isLoc m k) = true) :
    offVoice true cc m k = (modUser cc m k (fun d => { d with sus := d.sus ||| 1 }), false) := by
  simp [offVoice, findOrCreateUser, h]

end Opn.Synth
