/- Helper lemmas about finite tables (core Lean only). -/
import OpnVerif.Model.Basic
namespace Opn

def isNonDec : List Nat → Bool
  | [] => true
  | [_] => true
  | a :: b :: xs => a ≤ b && isNonDec (b :: xs)

def isNonInc : List Nat → Bool
  | [] => true
  | [_] => true
  | a :: b :: xs => b ≤ a && isNonInc (b :: xs)

def allLe (n : Nat) (xs : List Nat) : Bool := xs.all (· ≤ n)

/-- for a transitive relation it is enough to compare neighbours -/
theorem pairwise_cons_cons {R : α → α → Prop} (tr : ∀ {a b c}, R a b → R b c → R a c) {a b : α} {xs : List α} :
    (a :: b :: xs).Pairwise R ↔ R a b ∧ (b :: xs).Pairwise R := by
  rw [List.pairwise_cons (a := a)]
  refine and_congr_left fun p => ⟨fun h => h b (List.mem_cons_self ..), fun hab y hy => ?_⟩
  rcases List.mem_cons.mp hy with rfl | hy
  · exact hab
  · exact tr hab ((List.pairwise_cons.mp p).1 y hy)

theorem isNonDec_iff_pairwise : ∀ xs, isNonDec xs = true ↔ xs.Pairwise (· ≤ ·)
  | [] | [_] => by simp [isNonDec]
  | a :: b :: xs => by
      rw [pairwise_cons_cons (R := (· ≤ ·)) Nat.le_trans, ← isNonDec_iff_pairwise (b :: xs)]
      simp only [isNonDec, Bool.and_eq_true, decide_eq_true_eq]

theorem isNonInc_iff_pairwise : ∀ xs, isNonInc xs = true ↔ xs.Pairwise (· ≥ ·)
  | [] | [_] => by simp [isNonInc]
  | a :: b :: xs => by
      rw [pairwise_cons_cons (R := (· ≥ ·)) fun h1 h2 => Nat.le_trans h2 h1, ← isNonInc_iff_pairwise (b :: xs)]
      simp only [isNonInc, Bool.and_eq_true, decide_eq_true_eq]

theorem pairwise_getElem? {R : α → α → Prop} (rf : ∀ a, R a a) {xs : List α} (p : xs.Pairwise R)
    {i j : Nat} {a b : α} (hij : i ≤ j) (ha : xs[i]? = some a) (hb : xs[j]? = some b) : R a b := by
  obtain ⟨hi, rfl⟩ := List.getElem?_eq_some_iff.mp ha
  obtain ⟨hj, rfl⟩ := List.getElem?_eq_some_iff.mp hb
  rcases Nat.eq_or_lt_of_le hij with rfl | hlt
  · exact rf _
  · exact List.pairwise_iff_getElem.mp p i j hi hj hlt

theorem exists_getElem? {l : List α} {n k : Nat} (hl : l.length = n) (hk : k < n) : ∃ x, l[k]? = some x :=
  ⟨_, List.getElem?_eq_getElem (hl ▸ hk)⟩

theorem allLe_iff {n : Nat} {xs : List Nat} : allLe n xs = true ↔ ∀ x ∈ xs, x ≤ n := by
  simp [allLe]

theorem tbl_get_ok {t : List Nat} {b : Nat} (hle : allLe b t = true) {i : Nat} (hi : i < t.length)
    (site : String) : ∃ x, tbl site t i = .ok x ∧ x ≤ b ∧ t[i]? = some x :=
  ⟨t[i], tbl_ok site t i hi, allLe_iff.mp hle _ (List.getElem_mem hi), List.getElem?_eq_getElem hi⟩

theorem filter_le_length_mono (xs : List Nat) {v w : Nat} (h : v ≤ w) :
    (xs.filter (· ≤ v)).length ≤ (xs.filter (· ≤ w)).length := by
  rw [← List.countP_eq_length_filter, ← List.countP_eq_length_filter]
  exact List.countP_mono_left fun _ _ hx => decide_eq_true (Nat.le_trans (of_decide_eq_true hx) h)

end Opn
