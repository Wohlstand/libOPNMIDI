/- Shape lemmas for the sequencer model: what one step of a model function returns, in the form the property files use. -/
import OpnVerif.Model.Seq

namespace Opn.Seq
open Opn

theorem Loop.curIdx_level {l l' : Loop} {i : Nat} (h : l.curIdx = (l', i)) : l'.stackLevel = l.stackLevel := by
  have : l.curIdx.1.stackLevel = l.stackLevel := by fun_cases Loop.curIdx l <;> rfl
  rwa [h] at this

/-- One round of the `while(caughLoopStackEnds > 0)` block.  Either it leaves the block with a jump back (behind the
    loop-end hook, if one is due, and All-Notes-Off) and the loop level as it was, or it closes the current level and
    goes round again with the outputs untouched. -/
theorem stackEndsN_succ (n : Nat) (s : Seq) (t : Rat) (outs : List Out) :
    (∃ (s' : Seq) (hook : Bool), s'.loop.stackLevel = s.loop.stackLevel ∧
        stackEndsN (n + 1) s t outs = (s', outs ++ ((if hook then [Out.loopEnd] else []) ++ allNotesOff))) ∨
    (∃ s', s'.loop.stackLevel = stackDown s.loop.stackLevel ∧ stackEndsN (n + 1) s t outs = stackEndsN n s' t outs) := by
  generalize hm : n + 1 = m        -- `fun_cases` takes the fuel as a variable
  fun_cases stackEndsN m s t outs
  case case1 => cases hm
  case case2 hci s1 hx =>
    have hl := Loop.curIdx_level hci
    left
    cases hb : s1.hookLoopEnd && decide (s1.loopEndTime ≥ t)
    · rw [hb] at hx
      obtain ⟨rfl, rfl⟩ := Prod.mk.inj hx
      exact ⟨_, false, hl, rfl⟩
    · rw [hb] at hx
      obtain ⟨rfl, rfl⟩ := Prod.mk.inj hx
      refine ⟨_, true, ?_, congrArg (Prod.mk _) (List.append_assoc ..)⟩
      split <;> exact hl
  case case3 hci _ _ => exact .inl ⟨_, false, (Loop.curIdx_level hci :), rfl⟩
  case case4 hci _ _ | case5 hci _ =>
    cases hm
    exact .inr ⟨_, congrArg stackDown (Loop.curIdx_level hci), rfl⟩

/-- A call into the synthesizer carries the type of the event that caused it: each branch of `handleEvent` that emits an
    `Out.rt t …` stands under the test `e.type == t`. -/
theorem handleEvent_rt {s : Seq} {track : Nat} {e : Ev} {status : Int} {k ch a b : Nat}
    (h : Out.rt k ch a b ∈ (handleEvent s track e status).2.2) : e.type = k := by
  revert h
  fun_cases handleEvent s track e status
  all_goals intro h
  any_goals split at h        -- the two note branches send nothing on a disabled channel
  -- the outputs of a branch are an explicit list: this settles the branches without an `Out.rt`
  all_goals
    simp +zetaDelta only [List.mem_append, List.mem_cons, List.not_mem_nil, reduceCtorEq, Out.rt.injEq, false_or, or_false] at h
  -- left: the seven channel-voice branches, each under its test `(e.type == t) = true`, with `h : k = t ∧ …`
  all_goals simp only [beq_iff_eq.1 ‹(e.type == _) = true›, h]

end Opn.Seq
